/-
  The version bounds written in the regenerated schema folder: every number under a `minVersion` / `maxVersion` key of
  any schema file, and the two defaults of the range test.  They cut the versions into the classes of C09
  (Props/C09Classes.lean) and give `create` its version points in C19 (Props/C19Create.lean).
-/
import Mappy.Model.Versioning
import Mappy.Gen.Schemas

namespace Mappy.Versioning

mutual
/-- every number written as `minVersion` / `maxVersion` anywhere in a document, in thousandths -/
def boundsJ : J → List Int
  | .dict kvs => boundsF kvs
  | .list xs => boundsL xs
  | _ => []
def boundsF : Fields → List Int
  | [] => []
  | (k, v) :: r =>
    (if k = minKey || k = maxKey then (match numMilli v with | some n => [n] | none => []) else []) ++ boundsJ v ++ boundsF r
def boundsL : List J → List Int
  | [] => []
  | x :: r => boundsJ x ++ boundsL r
end

/-- the distinct version bounds of the folder -/
def folderBounds : List Int := (boundsF Gen.files).eraseDups

/-- … with the two defaults of the range test -/
def allBounds : List Int := 0 :: 1000000 :: folderBounds

end Mappy.Versioning
