/-
  Every error path the Draft-4 subset semantics (Model/Schema.lean) reports extends the instance path it was called
  with by a path that *resolves in the instance*.
-/
import Mappy.Model.Schema
import Mappy.Lemmas.Assoc

namespace Mappy.Schema
open DictUtils (PathEl)

inductive Resolves : J → List PathEl → Prop
  | nil (x : J) : Resolves x []
  | key (d : Fields) (k : Str) (v : J) (r : List PathEl) : (k, v) ∈ d → Resolves v r → Resolves (.dict d) (.key k :: r)
  | idx (xs : List J) (i : Nat) (x : J) (r : List PathEl) : xs[i]? = some x → Resolves x r → Resolves (.list xs) (.idx i :: r)

/-- the error was found at or below `x`, which sits at `p` -/
def Under (x : J) (p : List PathEl) (e : Err) : Prop := ∃ rel, e.1 = p ++ rel ∧ Resolves x rel

theorem Under.here {x : J} {p : List PathEl} {e : Err} (h : e.1 = p) : Under x p e := ⟨[], by simp [h], .nil x⟩

theorem Under.key {d : Fields} {k : Str} {v : J} {p : List PathEl} {e : Err} (hm : (k, v) ∈ d)
    (h : Under v (p ++ [.key k]) e) : Under (.dict d) p e :=
  let ⟨rel, e1, hr⟩ := h; ⟨.key k :: rel, by simp [e1], .key d k v rel hm hr⟩

theorem Under.idx {xs : List J} {i : Nat} {x : J} {p : List PathEl} {e : Err} (hx : xs[i]? = some x)
    (h : Under x (p ++ [.idx i]) e) : Under (.list xs) p e :=
  let ⟨rel, e1, hr⟩ := h; ⟨.idx i :: rel, by simp [e1], .idx xs i x rel hx hr⟩

def RecOK (rec : J → J → List PathEl → List Err) : Prop := ∀ s x p, ∀ e ∈ rec s x p, Under x p e

/-- Closes `e.1 = path` from `he : e ∈ <a keyword check that looks at the instance as a whole>`: once every `match` and
`if` of the check is split, `he` says `e ∈ []` or `e ∈ [(path, keyword)]`. -/
local macro "keyword_leaves" he:ident : tactic => `(tactic| (
  repeat' split at $he:ident
  all_goals simp only [List.mem_singleton, List.not_mem_nil] at $he:ident
  all_goals rw [$he:ident]))

theorem scalarErrs_fst (sch : Fields) (x : J) (path : List PathEl) : ∀ e ∈ scalarErrs sch x path, e.1 = path := by
  intro e he
  simp only [scalarErrs, List.mem_append] at he
  rcases he with ((he | he) | he) | he <;> keyword_leaves he

theorem strErrs_fst (pats : List (Str × Pat)) (sch : Fields) (s : Str) (path : List PathEl) :
    ∀ e ∈ strErrs pats sch s path, e.1 = path := by
  intro e he
  simp only [strErrs, List.mem_append] at he
  rcases he with (he | he) | he <;> keyword_leaves he

theorem reqErrs_fst (sch d : Fields) (path : List PathEl) : ∀ e ∈ reqErrs sch d path, e.1 = path := by
  intro e he
  simp only [reqErrs] at he
  split at he
  · obtain ⟨r, _, hr⟩ := List.mem_filterMap.mp he
    repeat' split at hr
    all_goals cases hr
    rfl
  · simp at he

theorem arrErrs_paths (rec : J → J → List PathEl → List Err) (hrec : RecOK rec) (sch : Fields) (xs : List J) (path : List PathEl) :
    ∀ e ∈ arrErrs rec sch xs path, Under (.list xs) path e := by
  intro e he
  simp only [arrErrs, List.mem_append] at he
  rcases he with (he | he) | he
  iterate 2 exact .here (by keyword_leaves he)
  -- `items`: item `i` is checked at `path ++ [i]`  (`(l.map f).flatten` is `l.flatMap f` by definition)
  split at he
  · obtain ⟨⟨x, i⟩, hmem, hel⟩ := List.mem_flatMap.mp he
    exact (hrec _ x _ e hel).idx (List.mem_zipIdx_iff_getElem?.mp hmem)
  · obtain ⟨⟨⟨x, s⟩, i⟩, hmem, hel⟩ := List.mem_flatMap.mp he
    have hz := List.mem_zipIdx_iff_getElem?.mp hmem
    exact (hrec s x _ e hel).idx (List.getElem?_zip_eq_some.mp hz).1
  · simp at he

theorem objErrs_paths (pats : List (Str × Pat)) (rec : J → J → List PathEl → List Err) (hrec : RecOK rec)
    (sch d : Fields) (path : List PathEl) :
    ∀ e ∈ objErrs pats rec sch d path, Under (.dict d) path e := by
  intro e he
  simp only [objErrs, List.mem_append] at he
  rcases he with ((he | he) | he) | he
  · -- properties: the value under `k` is checked at `path ++ [k]`
    simp only [propErrs] at he
    split at he
    · obtain ⟨⟨k, s⟩, _, hel⟩ := List.mem_flatMap.mp he
      split at hel
      · rename_i v hl
        exact (hrec s v _ e hel).key (mem_of_lookup d k v hl)
      · simp at hel
    · simp at he
  · -- patternProperties: every entry whose key matches
    simp only [ppErrs] at he
    split at he
    · obtain ⟨⟨p, s⟩, _, hel⟩ := List.mem_flatMap.mp he
      obtain ⟨⟨k, v⟩, hkv, hel⟩ := List.mem_flatMap.mp hel
      split at hel
      · exact (hrec s v _ e hel).key hkv
      · simp at hel
    · simp at he
  · -- additionalProperties
    simp only [apErrs] at he
    split at he
    · exact .here (by keyword_leaves he)
    · obtain ⟨k, _, hel⟩ := List.mem_flatMap.mp he
      split at hel
      · rename_i v hl
        exact (hrec _ v _ e hel).key (mem_of_lookup d k v hl)
      · simp at hel
    · simp at he
  · exact .here (reqErrs_fst sch d path e he)

theorem combErrs_paths (rec : J → J → List PathEl → List Err) (hrec : RecOK rec) (sch : Fields) (x : J) (path : List PathEl) :
    ∀ e ∈ combErrs rec sch x path, Under x path e := by
  intro e he
  simp only [combErrs, List.mem_append] at he
  rcases he with (he | he) | he
  · -- allOf: same instance, same path
    split at he
    · obtain ⟨s, _, hel⟩ := List.mem_flatMap.mp he
      exact hrec s x path e hel
    · simp at he
  iterate 2 exact .here (by keyword_leaves he)

/-- **every reported error path resolves in the instance** — for every schema, instance, starting path and budget -/
theorem errs_paths (env : Env) : (fuel : Nat) → RecOK (errs env fuel)
  | 0 => by intro s x p e he; simp [errs] at he
  | fuel + 1 => by
    intro s x p e he
    have ih := errs_paths env fuel
    cases s with
    | dict sch =>
      simp only [errs] at he
      cases hr : Versioning.refOfFields sch with
      | some u =>
        simp only [hr] at he
        split at he
        · exact ih _ x p e he
        · exact .here (by keyword_leaves he)
      | none =>
        simp only [hr, List.mem_append] at he
        rcases he with (he | he) | he
        · exact .here (scalarErrs_fst sch x p e he)
        · cases x with
          | list xs => exact arrErrs_paths _ ih sch xs p e he
          | str s => exact .here (strErrs_fst env.pats sch s p e he)
          | dict d => exact objErrs_paths env.pats _ ih sch d p e he
          | _ => simp at he
        · exact combErrs_paths _ ih sch x p e he
    | _ => simp [errs] at he

end Mappy.Schema
