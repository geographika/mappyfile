/- General facts the models' proofs share, about `if`, about Python-style results (`Res = Except PyErr`) and about the list
   functions the models run in them: what a successful bind, fold or map tells. -/
import Mappy.Base

namespace Mappy

theorem ite_rel {α β : Sort _} {R : α → β → Prop} {c : Prop} [Decidable c] {a b : α} {a' b' : β}
    (ht : c → R a a') (hf : ¬c → R b b') : R (if c then a else b) (if c then a' else b') := by
  split
  · exact ht ‹_›
  · exact hf ‹_›

theorem bind_ok {α β : Type} {x : Res α} {f : α → Res β} {b : β} (h : (x >>= f) = .ok b) :
    ∃ a, x = .ok a ∧ f a = .ok b := by
  cases x with
  | error e => cases h
  | ok a => exact ⟨a, rfl, h⟩

theorem foldlM_cons_ok {σ α : Type} {f : σ → α → Res σ} {s s1 : σ} {a : α} (l : List α) (h : f s a = .ok s1) :
    (a :: l).foldlM f s = l.foldlM f s1 := by
  simp only [List.foldlM_cons, h]; rfl

theorem foldlM_cons_inv {σ α : Type} {f : σ → α → Res σ} {s s' : σ} {a : α} {l : List α}
    (h : (a :: l).foldlM f s = .ok s') : ∃ s1, f s a = .ok s1 ∧ l.foldlM f s1 = .ok s' :=
  bind_ok (by simpa only [List.foldlM_cons] using h)

theorem foldlM_inv {σ α : Type} {f : σ → α → Res σ} (P : σ → Prop) (hf : ∀ s a s1, P s → f s a = .ok s1 → P s1) :
    (l : List α) → ∀ s s', P s → l.foldlM f s = .ok s' → P s'
  | [], s, s', hs, h => by cases h; exact hs
  | a :: l, s, s', hs, h => by
    obtain ⟨s1, h1, h2⟩ := foldlM_cons_inv h
    exact foldlM_inv P hf l s1 s' (hf s a s1 hs h1) h2

theorem mapM_id_of_all {α : Type} (f : α → Res α) : (xs : List α) → (∀ x ∈ xs, f x = .ok x) → xs.mapM f = .ok xs
  | [], _ => rfl
  | x :: r, h => by
    simp only [List.mapM_cons, h x (by simp), mapM_id_of_all f r (fun y hy => h y (by simp [hy]))]; rfl

theorem filterMap_congr {α β : Type} {f g : α → Option β} : (l : List α) → (∀ a ∈ l, f a = g a) → l.filterMap f = l.filterMap g
  | [], _ => rfl
  | a :: r, h => by
    simp only [List.filterMap_cons, h a (List.mem_cons_self ..), filterMap_congr r fun b hb => h b (List.mem_cons_of_mem _ hb)]

end Mappy
