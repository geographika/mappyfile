/-
  From "the reported path resolves in the lower-cased copy" to "create_message returns": `findkey` in a Mapfile
  dictionary (lower-case unique keys, objects of lists carry `__type__`, no `__position__` data).
  The hypotheses of `C07_messages_total` are defined here: `plainMD` (with `keysOK`, `plainF`, `plainL`) and `typeStr`.
-/
import Mappy.Lemmas.SchemaPaths
import Mappy.Model.Validator
import Mappy.Lemmas.Assoc
import Mappy.Lemmas.DictUtils

namespace Mappy.Validator
open DictUtils (PathEl findkey pyIndex nk findkey_nil findkey_cons_ok findkey_append_ok)
open Schema (Resolves)

/-- the object carries a string `__type__`: what `create_message` names when the error is on the object itself -/
def typeStr (kvs : Fields) : Bool :=
  match lookup typeKey kvs with
  | some (.str _) => true
  | _ => false

/-- keys as the Mapfile dict class stores them -/
def keysOK (kvs : Fields) : Bool := (keys kvs).all (fun k => lower k == k) && decide (keys kvs).Nodup

mutual
/-- a dictionary as a plain `loads` builds it: lower-case unique keys everywhere, every object of a list carries a
string `__type__`, no `__position__` entries -/
def plainMD : J → Bool
  | .dict kvs => keysOK kvs && !hasKey posKey kvs && plainF kvs
  | .list xs => plainL xs
  | _ => true
def plainF : Fields → Bool
  | [] => true
  | (_, x) :: r => plainMD x && plainF r
def plainL : List J → Bool
  | [] => true
  | x :: r => (match x with | .dict kvs => typeStr kvs | _ => true) && plainMD x && plainL r
end

theorem lower_idem' (s : Str) : lower (lower s) = lower s := lower_idem s

theorem convertF_eq_map : (kvs : Fields) → convertF kvs = kvs.map fun kv => (lower kv.1, convertLowercase kv.2)
  | [] => rfl
  | (k, v) :: r => by simp only [convertF, List.map_cons, convertF_eq_map r]

theorem convertL_eq_map : (xs : List J) → convertL xs = xs.map convertLowercase
  | [] => rfl
  | x :: r => by simp only [convertL, List.map_cons, convertL_eq_map r]

theorem plainL_mem : (xs : List J) → plainL xs = true → ∀ x, x ∈ xs →
    plainMD x = true ∧ (∀ kvs, x = .dict kvs → typeStr kvs = true)
  | [], _, x, h => by simp at h
  | a :: r, hp, x, h => by
    simp only [plainL, Bool.and_eq_true] at hp
    rcases List.mem_cons.mp h with rfl | h
    · exact ⟨hp.1.2, fun kvs e => by subst e; exact hp.1.1⟩
    · exact plainL_mem r hp.2 x h

theorem plainMD_dict {kvs : Fields} (h : plainMD (.dict kvs) = true) :
    (∀ k ∈ keys kvs, lower k = k) ∧ (keys kvs).Nodup ∧ lookup posKey kvs = none ∧ plainF kvs = true := by
  simp only [plainMD, keysOK, hasKey, Bool.and_eq_true, List.all_eq_true, beq_iff_eq, decide_eq_true_eq,
    Bool.not_eq_true', Option.isSome_eq_false_iff, Option.isNone_iff_eq_none] at h
  exact ⟨h.1.1.1, h.1.1.2, h.1.2, h.2⟩

theorem mem_of_pyIndex (xs : List J) (i : Int) (v : J) (h : pyIndex xs i = some v) : v ∈ xs := by
  unfold pyIndex at h
  split at h
  · exact List.mem_of_getElem? h
  · split at h
    · exact List.mem_of_getElem? h
    · simp at h

theorem findkey_plain {ci : Bool} (p : List PathEl) (x y : J) (hp : plainMD x = true) (h : findkey ci x p = .ok y) :
    plainMD y = true := by
  fun_induction findkey ci x p with
  | case1 => cases h; exact hp
  | case2 f k r v hl ih => exact ih (mem_of_all (fun _ _ _ => rfl) (plainMD_dict hp).2.2.2 (mem_of_lookup f _ v hl)) h
  | case4 xs i r v hl ih => exact ih (plainL_mem xs hp v (mem_of_pyIndex xs i v hl)).1 h
  | case3 | case5 | case6 => cases h

theorem findkey_of_resolves : (rel : List PathEl) → ∀ x, plainMD x = true → Resolves (convertLowercase x) rel →
    ∃ y, findkey true x rel = .ok y
  | [], x, _, _ => ⟨x, findkey_nil true x⟩
  | e :: r, x, hp, h => by
    cases x with
    | dict kvs =>
      simp only [convertLowercase, convertF_eq_map] at h
      cases h with
      | key _ _ v' _ hmem hres =>
        obtain ⟨⟨k, v⟩, hm, e⟩ := List.mem_map.mp hmem
        cases e
        have ⟨hlow, hnd, _, hpf⟩ := plainMD_dict hp
        -- the key is its own lower-case form and occurs once: `lookup` finds this very entry
        have hk : lower k = k := hlow k (List.mem_map.mpr ⟨(k, v), hm, rfl⟩)
        obtain ⟨y, hy⟩ := findkey_of_resolves r v (mem_of_all (fun _ _ _ => rfl) hpf hm) hres
        exact ⟨y, by simp only [findkey, nk, if_true, hk, lookup_of_mem_nodup kvs hnd k v hm, hy]⟩
    | list xs =>
      simp only [convertLowercase, convertL_eq_map] at h
      cases h with
      | idx _ n x' _ hget hres =>
        rw [List.getElem?_map, Option.map_eq_some_iff] at hget
        obtain ⟨x, hx, rfl⟩ := hget
        obtain ⟨y, hy⟩ := findkey_of_resolves r x (plainL_mem xs hp x (List.mem_of_getElem? hx)).1 hres
        exact ⟨y, by simp [findkey, pyIndex, hx, hy]⟩
    | _ => simp only [convertLowercase] at h; cases h

theorem dropIdx_split (p : List PathEl) :
    ∃ idxs, p = dropIdx p ++ idxs ∧ (∀ e ∈ idxs, isIdx e = true) ∧
      (dropIdx p = [] ∨ ∃ q k, dropIdx p = q ++ [.key k]) := by
  unfold dropIdx
  refine ⟨(p.reverse.takeWhile isIdx).reverse, ?_, ?_, ?_⟩
  · rw [← List.reverse_append, List.takeWhile_append_dropWhile, List.reverse_reverse]
  · intro e he
    exact List.all_eq_true.mp List.all_takeWhile e (List.mem_reverse.mp he)
  · cases hd : p.reverse.dropWhile isIdx with
    | nil => exact .inl rfl
    | cons a r =>
      have hne := List.head_dropWhile_not isIdx (l := p.reverse) (by rw [hd]; simp)
      cases a with
      | idx i => simp [hd, isIdx] at hne
      | key k => exact .inr ⟨r.reverse, k, by simp⟩

theorem typeStr_lookup (kvs : Fields) (h : typeStr kvs = true) : ∃ t, lookup typeKey kvs = some (.str t) := by
  unfold typeStr at h
  split at h
  · exact ⟨_, by assumption⟩
  · simp at h

theorem target_key {root : J} {pre : List PathEl} {d : Fields} (k : Str) (h : findkey true root pre = .ok (.dict d)) :
    target root (pre ++ [.key k]) = .ok (d, k) := by
  simp [target, h]

theorem target_idx_object {root : J} {pre : List PathEl} {i : Int} {d : Fields} {t : Str}
    (h : findkey true root (pre ++ [.idx i]) = .ok (.dict d)) (ht : lookup typeKey d = some (.str t)) :
    target root (pre ++ [.idx i]) = .ok (d, t) := by
  simp [target, h, ht]

/-- an item of a list-valued keyword: the keyword itself is reported -/
theorem target_idx_item {root y : J} {pre q : List PathEl} {i : Int} {k : Str} {d : Fields}
    (h : findkey true root (pre ++ [.idx i]) = .ok y) (hy : ∀ d, y ≠ .dict d)
    (hq : dropIdx (pre ++ [.idx i]) = q ++ [.key k]) (hd : findkey true root q = .ok (.dict d)) :
    target root (pre ++ [.idx i]) = .ok (d, k) := by
  cases y with
  | dict d => exact absurd rfl (hy d)
  | _ => simp [target, h, hq, hd]

theorem createMessage_noPos {root : J} {path : List PathEl} {d : Fields} {key : Str}
    (h : target root path = .ok (d, key)) (hpos : lookup posKey d = none) : createMessage root path = .ok ⟨key, none⟩ := by
  simp [createMessage, h, position, hpos]

theorem owner_of_key {kvs : Fields} (hp : plainMD (.dict kvs) = true) {pre rest : List PathEl} {k : Str} {y : J}
    (h : findkey true (.dict kvs) (pre ++ .key k :: rest) = .ok y) :
    ∃ d, findkey true (.dict kvs) pre = .ok (.dict d) ∧ lookup posKey d = none := by
  obtain ⟨z, hz, hy⟩ := findkey_append_ok h
  rcases findkey_cons_ok hy with ⟨d, _, _, rfl, _⟩ | ⟨_, _, _, _, e, _⟩
  · exact ⟨d, hz, (plainMD_dict (findkey_plain pre _ _ hp hz)).2.2.1⟩
  · cases e

/-- **create_message returns** for every path that can be walked in a plain Mapfile dictionary whose root carries
`__type__`, and the message carries no position -/
theorem createMessage_total (kvs : Fields) (hp : plainMD (.dict kvs) = true) (ht : typeStr kvs = true)
    (path : List PathEl) (y : J) (hn : findkey true (.dict kvs) path = .ok y) :
    ∃ key, createMessage (.dict kvs) path = .ok ⟨key, none⟩ := by
  rcases path.eq_nil_or_concat with rfl | ⟨pre, e, rfl⟩
  · obtain ⟨t, htl⟩ := typeStr_lookup kvs ht
    exact ⟨_, createMessage_noPos (d := kvs) (key := t) (by simp [target, htl]) (plainMD_dict hp).2.2.1⟩
  rw [List.concat_eq_append] at hn ⊢
  cases e with
  | key k =>
    obtain ⟨d, hf, hpos⟩ := owner_of_key hp hn
    exact ⟨_, createMessage_noPos (target_key k hf) hpos⟩
  | idx i =>
    by_cases hy : ∃ d, y = .dict d
    · -- an object of a list: it carries `__type__`
      obtain ⟨d, rfl⟩ := hy
      obtain ⟨z, hz, hy⟩ := findkey_append_ok hn
      rcases findkey_cons_ok hy with ⟨_, _, _, _, e, _⟩ | ⟨xs, _, v, rfl, _, hv, hd⟩
      · cases e
      · rw [findkey_nil] at hd; cases hd
        obtain ⟨t, htl⟩ := typeStr_lookup d ((plainL_mem xs (findkey_plain pre _ _ hp hz) _ (mem_of_pyIndex xs _ _ hv)).2 d rfl)
        exact ⟨_, createMessage_noPos (target_idx_object hn htl) (plainMD_dict (findkey_plain _ _ _ hp hn)).2.2.1⟩
    · -- an item of a list-valued keyword: below the root dict the path has a last key step
      obtain ⟨idxs, hsplit, hidx, hnil | ⟨q, k, hq⟩⟩ := dropIdx_split (pre ++ [.idx i])
      · -- all steps would be indexes, but the first step from the root dict is a key
        rw [hnil, List.nil_append] at hsplit
        rcases hpi : pre ++ [PathEl.idx i] with _ | ⟨a, r⟩
        · simp at hpi
        · rw [hpi] at hn
          rcases findkey_cons_ok hn with ⟨_, _, _, _, rfl, _⟩ | ⟨_, _, _, e, _⟩
          · exact absurd (hidx _ (by rw [← hsplit, hpi]; exact List.mem_cons_self ..)) (by simp [isIdx])
          · cases e
      · have hn' := hn
        rw [hsplit, hq, List.append_assoc] at hn'
        obtain ⟨d, hf, hpos⟩ := owner_of_key hp hn'
        exact ⟨_, createMessage_noPos (target_idx_item hn (fun d e => hy ⟨d, e⟩) hq hf) hpos⟩

end Mappy.Validator
