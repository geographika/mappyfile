/-
  Erasing the bookkeeping keys (`stripF`) commutes with every step the `composite` call-back of Model/Transformer.lean takes
  on the block's own dict, and leaves the user part of a key/value block alone; the association-list facts about attribute
  dicts (`lookupAV` / `delAV` / `setAV`) that the comparison of two runs needs.
-/
import Mappy.Model.Transformer
import Mappy.Lemmas.Assoc
import Mappy.Lemmas.TransformerEqs

namespace Mappy.Transformer

/-- the two hidden keys begin with `__` -/
theorem not_hidden_of_not_underscored (k : Str) (h : underscored k = false) : hiddenKey k = false := by
  cases hh : hiddenKey k with
  | false => rfl
  | true =>
    simp only [hiddenKey, Bool.or_eq_true, decide_eq_true_eq] at hh
    rcases hh with rfl | rfl <;> exact absurd h (by decide)

theorem plural_getLast (k : Str) : (plural k).getLast? = some 's' := by
  unfold plural; split <;> simp [List.getLast?_append]

/-- a plural ends in `s`, the two hidden keys in `_` -/
theorem plural_not_hidden (k : Str) : hiddenKey (plural k) = false := by
  cases hh : hiddenKey (plural k) with
  | false => rfl
  | true =>
    have h := plural_getLast k
    simp only [hiddenKey, Bool.or_eq_true, decide_eq_true_eq] at hh
    rcases hh with e | e <;> exact absurd (e ▸ h) (by decide)

theorem lookup_stripF (k : Str) (hk : hiddenKey k = false) : (d : Fields) → lookup k (stripF d) = (lookup k d).map stripJ
  | [] => by simp [stripF, lookup]
  | (k', v) :: r => by
    simp only [stripF]
    by_cases hh : hiddenKey k' = true
    · have hne : k' ≠ k := by intro e; rw [e, hk] at hh; cases hh
      simp only [hh, if_true, lookup, hne, if_false]
      exact lookup_stripF k hk r
    · simp only [hh, Bool.false_eq_true, if_false, lookup]
      by_cases he : k' = k
      · simp [he]
      · simp only [he, if_false]; exact lookup_stripF k hk r

theorem stripF_setKey (k : Str) (v : J) (hk : hiddenKey k = false) : (d : Fields) →
    stripF (setKey k v d) = setKey k (stripJ v) (stripF d)
  | [] => by simp [setKey, stripF, hk]
  | (k', v') :: r => by
    simp only [setKey]
    by_cases he : k' = k
    · subst he; simp [stripF, hk, setKey]
    · simp only [he, if_false, stripF]
      by_cases hh : hiddenKey k' = true
      · simp only [hh, if_true]; exact stripF_setKey k v hk r
      · simp only [hh, Bool.false_eq_true, if_false, setKey, he, stripF_setKey k v hk r]

theorem stripF_setKey_hidden (k : Str) (v : J) (hk : hiddenKey k = true) : (d : Fields) →
    stripF (setKey k v d) = stripF d
  | [] => by simp [setKey, stripF, hk]
  | (k', v') :: r => by
    simp only [setKey]
    by_cases he : k' = k
    · subst he; simp [stripF, hk]
    · simp only [he, if_false, stripF, stripF_setKey_hidden k v hk r]

theorem stripL_append (xs ys : List J) : stripL (xs ++ ys) = stripL xs ++ stripL ys := by
  induction xs with
  | nil => simp [stripL]
  | cons x r ih => simp [stripL, ih]

theorem appendTo_strip (k : Str) (v : J) (d d' : Fields) (hk : hiddenKey k = false)
    (h : appendTo k v d = .ok d') : appendTo k (stripJ v) (stripF d) = .ok (stripF d') := by
  unfold appendTo at h ⊢
  rw [lookup_stripF k hk]
  split at h
  · rename_i hl
    cases h
    rw [hl, stripF_setKey k _ hk]
    rfl
  · rename_i xs hl
    cases h
    rw [hl, stripF_setKey k _ hk]
    simp only [Option.map, stripJ, stripL_append, stripL]
  · cases h

theorem blockItem_strip (S : List Str) (sub d d' : Fields) (h : blockItem S sub d = .ok d') :
    blockItem S (stripF sub) (stripF d) = .ok (stripF d') := by
  unfold blockItem at h ⊢
  rw [lookup_stripF s%"__type__" (by decide)]
  split at h
  · rename_i k hl
    rw [hl]
    simp only [Option.map, stripJ]
    split at h
    · cases h
    · rename_i hu
      rw [if_neg hu]
      split at h
      · rename_i hs
        cases h
        rw [if_pos hs, stripF_setKey k _ (not_hidden_of_not_underscored k (by simpa using hu))]
        rfl
      · rename_i hs
        rw [if_neg hs]
        exact appendTo_strip (plural k) (.dict sub) d d' (plural_not_hidden k) h
  · cases h
  · cases h

theorem stripF_fold_config (sub : Fields) (hs : sub.any (fun kv => hiddenKey (lower kv.1)) = false)
    (hv : stripF sub = sub) : (c : Fields) →
    stripF (sub.foldl (fun c kv => setKey (lower kv.1) kv.2 c) c) = sub.foldl (fun c kv => setKey (lower kv.1) kv.2 c) (stripF c) := by
  induction sub with
  | nil => intro c; rfl
  | cons kv r ih =>
    intro c
    obtain ⟨k, v⟩ := kv
    simp only [List.any_cons, Bool.or_eq_false_iff] at hs
    simp only [stripF] at hv
    by_cases hh : hiddenKey k = true
    · -- a hidden key is in lower case already, so `hs` excludes it
      simp only [hiddenKey, Bool.or_eq_true, decide_eq_true_eq] at hh
      rcases hh with rfl | rfl <;> exact absurd hs.1 (by decide)
    · simp only [hh, Bool.false_eq_true, if_false] at hv
      injection hv with h1 h2
      injection h1 with _ h1
      simp only [List.foldl_cons]
      rw [ih hs.2 h2, stripF_setKey _ _ hs.1, h1]

mutual
theorem depthJ_strip : (x : J) → depthJ (stripJ x) = depthJ x
  | .list xs => by simp [stripJ, depthJ, depthL_strip xs]
  | .tup xs => by simp [stripJ, depthJ, depthL_strip xs]
  | .dict _ => by simp [stripJ, depthJ]
  | .null | .bool _ | .int _ | .flt _ | .str _ => by simp [stripJ]
theorem depthL_strip : (xs : List J) → depthL (stripL xs) = depthL xs
  | [] => by simp [stripL]
  | x :: r => by simp [stripL, depthL, depthJ_strip x, depthL_strip r]
end

theorem dataStep_strip (Rp : List Str) (key : Str) (v : J) (d d' : Fields) (hk : hiddenKey key = false)
    (hv : stripJ v = v) (h : dataStep Rp key v d = .ok d') : dataStep Rp key v (stripF d) = .ok (stripF d') := by
  unfold dataStep at h ⊢
  rw [lookup_stripF key hk]
  by_cases h1 : key = s%"config"
  · simp only [h1, if_true] at h ⊢
    cases v with
    | dict sub =>
      simp only at h ⊢
      by_cases ha : sub.any (fun kv => hiddenKey (lower kv.1)) = true
      · simp [ha] at h
      · simp only [ha, Bool.false_eq_true, if_false] at h ⊢
        have hsub : stripF sub = sub := by simpa [stripJ] using hv
        have hk' : hiddenKey s%"config" = false := by decide
        cases hl : lookup s%"config" d with
        | none =>
          simp only [hl] at h
          cases h
          have := stripF_fold_config sub (by simpa using ha) hsub []
          simp [stripF_setKey _ _ hk', stripJ, this, stripF]
        | some x =>
          simp only [hl] at h
          cases x with
          | dict c =>
            cases h
            have := stripF_fold_config sub (by simpa using ha) hsub c
            simp [stripF_setKey _ _ hk', stripJ, this]
          | _ => simp at h
    | _ => simp at h
  · simp only [h1, if_false] at h ⊢
    by_cases h2 : key = s%"points"
    · simp only [h2, if_true] at h ⊢
      have hk' : hiddenKey s%"points" = false := by decide
      cases hl : lookup s%"points" d with
      | none =>
        simp only [hl] at h
        cases h
        simp [stripF_setKey _ _ hk', hv]
      | some ex =>
        simp only [hl, Option.map, depthJ_strip] at h ⊢
        by_cases hd : depthJ ex = 2
        · simp only [hd, if_true] at h ⊢
          cases h
          simp [stripF_setKey _ _ hk', stripJ, stripL, hv]
        · simp only [hd, if_false] at h ⊢
          cases ex with
          | list xs =>
            simp only [stripJ] at h ⊢
            cases h
            simp [stripF_setKey _ _ hk', stripJ, stripL_append, stripL, hv]
          | _ => simp at h
    · simp only [h2, if_false] at h ⊢
      by_cases h3 : Rp.contains key = true
      · simp only [h3, if_true] at h ⊢
        have := appendTo_strip key v d d' hk h
        rwa [hv] at this
      · simp only [h3, Bool.false_eq_true, if_false] at h ⊢
        cases h
        simp [stripF_setKey key v hk, hv]

theorem underscored_lower (k : Str) (h : underscored k = false) : underscored (lower k) = false := by
  cases hh : underscored (lower k) with
  | false => rfl
  | true =>
    exfalso
    match k, h, hh with
    | [], _, hh => simp [underscored, lower, startsWith] at hh
    | [a], _, hh => simp [underscored, lower, startsWith] at hh
    | a :: b :: r, h, hh =>
      simp only [underscored, lower, startsWith, List.map_cons, List.isPrefixOf, Bool.and_eq_true, beq_iff_eq,
        Bool.and_true] at hh h
      have ha := lowerC_us a hh.1.symm
      have hb := lowerC_us b hh.2.symm
      subst ha; subst hb
      simp at h

theorem pairKV_guard (t : R) (k : Str) (v : J) (h : pairKV t = .ok (k, v)) :
    underscored k = false ∧ ∃ s, v = .str s := by
  unfold pairKV at h
  split at h
  · obtain ⟨_, _, h⟩ := bind_ok h
    obtain ⟨ka, _, h⟩ := bind_ok h
    obtain ⟨_, _, h⟩ := bind_ok h
    obtain ⟨vb, _, h⟩ := bind_ok h
    simp only [] at h
    split at h
    · cases h
    · rename_i hu
      cases h
      exact ⟨by simpa using hu, _, rfl⟩
  all_goals cases h

theorem kvDict_strip_aux (kvs : List (Str × J)) (hg : ∀ kv ∈ kvs, underscored kv.1 = false ∧ ∃ s, kv.2 = .str s) :
    ∀ d, stripF d = d → stripF (kvs.foldl (fun d kv => setKey (lower kv.1) kv.2 d) d) =
      kvs.foldl (fun d kv => setKey (lower kv.1) kv.2 d) d := by
  induction kvs with
  | nil => intro d hd; exact hd
  | cons kv r ih =>
    intro d hd
    simp only [List.foldl_cons]
    apply ih (fun x hx => hg x (by simp [hx]))
    obtain ⟨hu, s, hs⟩ := hg kv (by simp)
    rw [stripF_setKey _ _ (not_hidden_of_not_underscored _ (underscored_lower _ hu)), hd, hs]
    simp [stripJ]

theorem kvPairs_guard (body : List R) (kvs : List (Str × J)) (h : kvPairs body = .ok kvs) :
    ∀ kv ∈ kvs, underscored kv.1 = false ∧ ∃ s, kv.2 = .str s := by
  fun_induction kvPairs body generalizing kvs with
  | case1 => cases h; exact fun _ hx => nomatch hx
  | case3 t r kv hp kvs' hr ih =>
    cases h
    exact fun x hx => (List.mem_cons.mp hx).elim (· ▸ pairKV_guard t kv.1 kv.2 hp) (ih kvs' hr x)
  | case2 | case4 => cases h

theorem kvDict_strip (body : List R) (kvs : List (Str × J)) (h : kvPairs body = .ok kvs) : stripF (kvDict kvs) = kvDict kvs :=
  kvDict_strip_aux kvs (kvPairs_guard body kvs h) [] (by simp [stripF])

theorem lookupAV_delAV (k k' : Str) (hne : k ≠ k') : (kvs : List (Str × AV)) → lookupAV k (delAV k' kvs) = lookupAV k kvs
  | [] => rfl
  | (a, v) :: r => by
    simp only [delAV]
    by_cases h : a = k'
    · subst h
      simp only [if_true, lookupAV, Ne.symm hne, if_false]
      exact lookupAV_delAV k a hne r
    · simp only [h, if_false, lookupAV, lookupAV_delAV k k' hne r]

theorem lookupAV_delAV_self (k : Str) : (kvs : List (Str × AV)) → lookupAV k (delAV k kvs) = none
  | [] => rfl
  | (a, v) :: r => by
    simp only [delAV]
    by_cases h : a = k
    · simp only [h, if_true]; exact lookupAV_delAV_self k r
    · simp only [h, if_false, lookupAV]; exact lookupAV_delAV_self k r

theorem lookupAV_setAV_ne (k k' : Str) (v : AV) (hne : k ≠ k') : (kvs : List (Str × AV)) →
    lookupAV k (setAV k' v kvs) = lookupAV k kvs
  | [] => by simp [setAV, lookupAV, Ne.symm hne]
  | (a, x) :: r => by
    by_cases h : a = k'
    · subst h; simp [setAV, lookupAV, Ne.symm hne]
    · simp only [setAV, h, if_false, lookupAV, lookupAV_setAV_ne k k' v hne r]

theorem delAV_comm (k k' : Str) : (kvs : List (Str × AV)) → delAV k (delAV k' kvs) = delAV k' (delAV k kvs)
  | [] => rfl
  | (a, v) :: r => by
    by_cases h : a = k <;> by_cases h' : a = k'
    · subst h; subst h'; rfl
    · subst h; simp [delAV, h', delAV_comm a k' r]
    · subst h'; simp [delAV, h, delAV_comm k a r]
    · simp [delAV, h, h', delAV_comm k k' r]

theorem delAV_idem (k : Str) : (kvs : List (Str × AV)) → delAV k (delAV k kvs) = delAV k kvs
  | [] => rfl
  | (a, v) :: r => by
    by_cases h : a = k <;> simp [delAV, h, delAV_idem k r]

theorem delAV_setAV_self (k : Str) (v : AV) : (l : List (Str × AV)) → delAV k (setAV k v l) = delAV k l
  | [] => by simp [setAV, delAV]
  | (a, x) :: r => by
    by_cases h : a = k
    · subst h; simp [setAV, delAV]
    · simp [setAV, delAV, h, delAV_setAV_self k v r]

end Mappy.Transformer
