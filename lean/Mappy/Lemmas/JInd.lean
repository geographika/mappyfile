/-
  Induction over the nested type `J` in the shapes the models traverse it.  `J` is a nested inductive, and a `mutual`
  theorem pair over `Fields` / `List J` without a member over `J` is compiled by well-founded recursion (one termination
  proof per recursive call and constructor alternative: tens of millions of heartbeats per block); a proof that goes
  through one of the principles below is not recursive at all.
-/
import Mappy.Base

namespace Mappy

def J.elems : J → List J
  | .list xs => xs
  | _ => []

theorem J.induct {PJ : J → Prop} {PF : Fields → Prop} {PL : List J → Prop}
    (dict : ∀ f, PF f → PJ (.dict f)) (atom : ∀ j, (∀ f, j ≠ .dict f) → PJ j)
    (nil : PF []) (cons : ∀ k v r, PJ v → PL v.elems → PF r → PF ((k, v) :: r))
    (lnil : PL []) (lcons : ∀ x r, PJ x → PL r → PL (x :: r)) :
    (∀ j, PJ j) ∧ (∀ f, PF f) ∧ (∀ xs, PL xs) := by
  -- the recursor of the nested type, carrying for a value also what is known of its members and of its entries
  have h : ∀ j, PJ j ∧ PL j.elems ∧ ∀ f, j = .dict f → PF f :=
    J.rec (motive_1 := fun j => PJ j ∧ PL j.elems ∧ ∀ f, j = .dict f → PF f) (motive_2 := PL) (motive_3 := PF)
      (motive_4 := fun p => PJ p.2 ∧ PL p.2.elems)
      ⟨atom _ (by simp), lnil, by simp⟩ (fun _ => ⟨atom _ (by simp), lnil, by simp⟩)
      (fun _ => ⟨atom _ (by simp), lnil, by simp⟩) (fun _ => ⟨atom _ (by simp), lnil, by simp⟩)
      (fun _ => ⟨atom _ (by simp), lnil, by simp⟩) (fun _ ih => ⟨atom _ (by simp), ih, by simp⟩)
      (fun _ _ => ⟨atom _ (by simp), lnil, by simp⟩) (fun f ih => ⟨dict f ih, lnil, fun _ e => J.dict.inj e ▸ ih⟩)
      lnil (fun x r hx hr => lcons x r hx.1 hr) nil (fun p r hp hr => cons p.1 p.2 r hp.1 hp.2 hr)
      (fun _ _ hv => ⟨hv.1, hv.2.1⟩)
  exact ⟨fun j => (h j).1, fun f => (h (.dict f)).2.2 f rfl, fun xs => (h (.list xs)).2.1⟩

theorem J.kindCases {P : J → Prop} (list : ∀ xs, P (.list xs)) (dict : ∀ g, P (.dict g))
    (atom : ∀ v, (∀ xs, v ≠ .list xs) → (∀ g, v ≠ .dict g) → P v) (v : J) : P v := by
  cases v with
  | list xs => exact list xs
  | dict g => exact dict g
  | _ => exact atom _ (by simp) (by simp)

/-- `J.induct` for a pair of walkers over a dict and over a list that recurse into dict-valued and list-valued entries of a
dict, into the dict members of a list, and no further (the version filter and its specifications). -/
theorem walk_induct {P : Fields → Prop} {Q : List J → Prop}
    (fnil : P [])
    (fdict : ∀ k kvs r, P kvs → P r → P ((k, .dict kvs) :: r))
    (flist : ∀ k xs r, Q xs → P r → P ((k, .list xs) :: r))
    (fleaf : ∀ k x r, (∀ kvs, x ≠ .dict kvs) → (∀ xs, x ≠ .list xs) → P r → P ((k, x) :: r))
    (lnil : Q [])
    (ldict : ∀ kvs es, P kvs → Q es → Q (.dict kvs :: es))
    (lother : ∀ x es, (∀ kvs, x ≠ .dict kvs) → Q es → Q (x :: es)) :
    (∀ d, P d) ∧ (∀ xs, Q xs) :=
  (J.induct (PJ := fun x => ∀ kvs, x = .dict kvs → P kvs) (fun _ h _ e => J.dict.inj e ▸ h) (fun _ hj _ e => absurd e (hj _))
    fnil
    (fun k v r hv hl hr => v.kindCases (P := fun v => (∀ kvs, v = .dict kvs → P kvs) → Q v.elems → P ((k, v) :: r))
      (fun xs _ hl => flist k xs r hl hr) (fun g hv _ => fdict k g r (hv g rfl) hr)
      (fun v h1 h2 _ _ => fleaf k v r h2 h1 hr) hv hl)
    lnil
    (fun x es hx hes => x.kindCases (P := fun x => (∀ kvs, x = .dict kvs → P kvs) → Q (x :: es))
      (fun xs _ => lother _ es (by simp) hes) (fun g hx => ldict g es (hx g rfl) hes)
      (fun v _ h2 _ => lother v es h2 hes) hx)).2

end Mappy
