/- Lemmas of the quoter model: what its tests and projections give on a string that `add_quotes` made, and `esc` / `unesc`
one character at a time. -/
import Mappy.Model.Quoter

namespace Mappy.Quoter

theorem inQuotesC_addQuotes (q : Char) (x : Str) : inQuotesC q (addQuotes q x) = true := by
  have hsuf : endsWith [q] (q :: (x ++ [q])) = true := by
    simp only [endsWith, List.isSuffixOf_iff_suffix]
    exact ⟨q :: x, by simp⟩
  simp [inQuotesC, addQuotes, startsWith, hsuf]

theorem middle_addQuotes (q : Char) (x : Str) : middle (addQuotes q x) = x := by
  simp [middle, addQuotes]

theorem removeQuotes_addQuotes (q : Char) (x : Str) : removeQuotes q (addQuotes q x) = x := by
  simp [removeQuotes, inQuotes, inQuotesC_addQuotes, middle_addQuotes]

theorem unesc_cons {q c : Char} {y : Str} (h : ¬(c = '\\' ∧ y.head? = some q)) : unesc q (c :: y) = c :: unesc q y := by
  cases y with
  | nil => rfl
  | cons d r => rw [unesc, if_neg fun hh => h ⟨hh.1, congrArg some hh.2⟩]

theorem unesc_escaped (q : Char) (y : Str) : unesc q ('\\' :: q :: y) = q :: unesc q y := by
  rw [unesc, if_pos ⟨rfl, rfl⟩]

theorem esc_head_ne (q : Char) (hq : q ≠ '\\') (x : Str) : (esc q x).head? ≠ some q := by
  fun_cases esc q x with
  | case1 => exact nofun
  | case2 r => exact fun e => hq (Option.some.inj e).symm
  | case3 c r hc => exact fun e => hc (Option.some.inj e)

theorem esc_id (q : Char) (x : Str) (h : q ∉ x) : esc q x = x := by
  fun_induction esc q x with
  | case1 => rfl
  | case2 r => exact absurd (List.mem_cons_self ..) h
  | case3 c r hc ih => rw [ih fun hm => h (List.mem_cons_of_mem _ hm)]

theorem unesc_id (q : Char) (x : Str) (h : q ∉ x) : unesc q x = x := by
  fun_induction unesc q x with
  | case1 | case2 => rfl
  | case3 c d r hc => exact absurd (hc.2 ▸ List.mem_cons_of_mem _ (List.mem_cons_self ..)) h
  | case4 c d r hc ih => rw [ih fun hm => h (List.mem_cons_of_mem _ hm)]

theorem escape_addQuotes_id (q : Char) (s : Str) (h : q ∉ s) : escapeQuotes q (addQuotes q s) = addQuotes q s := by
  unfold escapeQuotes
  rw [if_pos (inQuotesC_addQuotes q s), removeQuotes_addQuotes, unesc_id q s h, esc_id q s h]

end Mappy.Quoter
