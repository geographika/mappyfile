/-
  Version classes for the whole pruned load.  `C09_version_classes` says that two versions on the same side of every bound
  get the same pruned `properties`; through the sets of followed documents (Lemmas/WalkExact.lean) the same holds of the store, and it is
  enough that the bounds of the documents the walk can reach are in `B`: `pruneS_agree`.
-/
import Mappy.Lemmas.WalkExact
import Mappy.Props.C09Classes

namespace Mappy.Versioning

/-- the documents named in `S` take their bounds from `B` and refer to documents of `S` only -/
def Bdd (B : List Int) (S : List Str) (files : Store) : Prop :=
  ∀ u ∈ S, ∀ doc, lookup u files = some (.dict doc) →
    metaIn B doc = true ∧ boundsInF B doc = true ∧ ∀ w ∈ frefsF doc, w ∈ S

theorem refValid_agree {B : List Int} {v w : Int} (hA : Agree B v w) {S : List Str} {files : Store} (hS : Bdd B S files)
    {u : Str} (hu : u ∈ S) : refValid v files u = refValid w files u := by
  unfold refValid
  split
  · rename_i doc hl; exact C09_valid_by_side B v w hA doc (hS u hu doc hl).1
  · rfl

/-- two runs give the same set, and it is within `S` -/
abbrev Agr (S : List Str) (x y : Option (List Str)) : Prop := x = y ∧ ∀ m', x = some m' → m' ⊆ S

theorem Agr.bind {S : List Str} {x y : Option (List Str)} {g g' : List Str → Option (List Str)} (h1 : Agr S x y)
    (h2 : ∀ m1, m1 ⊆ S → Agr S (g m1) (g' m1)) : Agr S (x.bind g) (y.bind g') := by
  obtain ⟨rfl, hs⟩ := h1
  cases x with
  | none => exact ⟨rfl, nofun⟩
  | some m1 => exact h2 m1 (hs m1 rfl)

theorem Agr.some {S m : List Str} (h : m ⊆ S) : Agr S (some m) (some m) := ⟨rfl, fun _ e => Option.some.inj e ▸ h⟩

theorem followAllS_agree {S : List Str} {fo fo' : FoS} (H : ∀ u ∈ S, ∀ m, m ⊆ S → Agr S (fo u m) (fo' u m)) :
    (l : List Str) → l ⊆ S → ∀ m, m ⊆ S → Agr S (followAllS fo l m) (followAllS fo' l m)
  | [], _, _, hm => Agr.some hm
  | u :: r, hl, m, hm =>
    have ⟨hu, hr⟩ := List.cons_subset.1 hl
    Agr.bind (H u hu m hm) fun m1 hm1 => followAllS_agree H r hr m1 hm1

theorem followS_agree (B : List Int) (v w : Int) (hA : Agree B v w) (S : List Str) (files : Store) (hS : Bdd B S files) :
    (n : Nat) → ∀ u ∈ S, ∀ m, m ⊆ S →
      Agr S (followS v (refValid v files) files n u m) (followS w (refValid w files) files n u m)
  | 0 => fun _ _ _ _ => ⟨rfl, nofun⟩
  | n + 1 => by
    intro u hu m hm
    simp only [followS]
    by_cases hc : m.contains u = true
    · simp only [hc, if_true]; exact Agr.some hm
    · simp only [hc, Bool.false_eq_true, if_false]
      cases hl : lookup u files with
      | none => exact ⟨rfl, nofun⟩
      | some x =>
        cases x with
        | dict doc =>
          obtain ⟨_, hb, hr⟩ := hS u hu doc hl
          have et := ((l_agree B v w hA (refValid v files) (refValid w files)).1 doc hb
            fun x hx => refValid_agree hA hS (hr x hx)).2
          obtain ⟨e, hs⟩ := followAllS_agree (followS_agree B v w hA S files hS n) (trF v (refValid v files) doc)
            (fun x hx => hr x (((tr_sub v _).1 doc).subset hx)) m hm
          refine ⟨by simp only [← et, e], fun m' hm' => ?_⟩
          obtain ⟨m1, h1, rfl⟩ := Option.map_eq_some_iff.1 hm'
          exact List.cons_subset.2 ⟨hu, hs m1 h1⟩
        | _ => exact ⟨rfl, nofun⟩

theorem overlay_agree (v w : Int) (rv rv' : Str → Bool) (m : List Str) : (σ : Store) →
    (∀ u doc, (u, J.dict doc) ∈ σ → u ∈ m → lFields v rv doc = lFields w rv' doc) → overlay v rv m σ = overlay w rv' m σ
  | [], _ => rfl
  | (u, x) :: r, h => by
    simp only [overlay, overlay_agree v w rv rv' m r fun u doc hm => h u doc (List.mem_cons_of_mem _ hm)]
    cases x with
    | dict doc =>
      by_cases hc : m.contains u = true
      · simp only [hc, if_true, h u doc (List.mem_cons_self ..) (List.contains_iff_mem.1 hc)]
      · simp only [hc, Bool.false_eq_true, if_false]
    | _ => rfl

/-- **the pruned load — root and store — is the same for two versions in range on the same side of every bound of the
documents the walk can reach** (`S` holds their names), as long as the budget reaches -/
theorem pruneS_agree (B : List Int) (v w : Ver) (hv : 0 < v.milli ∧ v.milli ≤ 1000000) (hw : 0 < w.milli ∧ w.milli ≤ 1000000)
    (hA : Agree B v.milli w.milli) (fuel : Nat) (L : Loaded) (S : List Str) (hS : Bdd B S L.store) (hnd : (keys L.store).Nodup)
    (hL : ∀ kvs props, L.root = .dict kvs → lookup propsKey kvs = some (.dict props) →
      boundsInF B props = true ∧ (∀ u ∈ frefsF props, u ∈ S) ∧
      runS fuel w.milli L.store props ≠ none) :
    pruneS fuel (some v) L = pruneS fuel (some w) L := by
  obtain ⟨root, files⟩ := L
  have hvz : v.milli ≠ 0 := by omega
  have hwz : w.milli ≠ 0 := by omega
  have hv0 : 0 ≤ v.milli := by omega
  have hw0 : 0 ≤ w.milli := by omega
  simp only [pruneS, hvz, hwz, if_false, hv0, hv.2, hw0, hw.2, and_self, if_true]
  cases root with
  | dict kvs =>
    simp only
    cases hp : lookup propsKey kvs with
    | none => rfl
    | some pv =>
      cases pv with
      | dict props =>
        obtain ⟨hb, hr, hrun⟩ := hL kvs props rfl hp
        have hrv : ∀ u ∈ S, refValid v.milli files u = refValid w.milli files u := fun _ h => refValid_agree hA hS h
        obtain ⟨el, et⟩ := (l_agree B v.milli w.milli hA (refValid v.milli files) (refValid w.milli files)).1 props hb
          fun u hu => hrv u (hr u hu)
        obtain ⟨e, hs⟩ := followAllS_agree (followS_agree B v.milli w.milli hA S files hS fuel)
          (trF v.milli (refValid v.milli files) props) (fun x hx => hr x (((tr_sub v.milli _).1 props).subset hx)) [] nofun
        rw [runS, ← et, ← e] at hrun
        simp only [runS, ← et, ← e, el]
        cases hm : followAllS (followS v.milli (refValid v.milli files) files fuel) (trF v.milli (refValid v.milli files) props) [] with
        | none => exact absurd hm hrun
        | some m =>
          simp only
          rw [overlay_agree v.milli w.milli _ _ m files fun u doc hmem hu => ?_]
          obtain ⟨_, hbd, hrd⟩ := hS u (hs m hm hu) doc (lookup_of_mem_nodup files hnd _ _ hmem)
          exact ((l_agree B v.milli w.milli hA _ _).1 doc hbd fun x hx => hrv x (hrd x hx)).1
      | _ => rfl
  | _ => rfl

end Mappy.Versioning
