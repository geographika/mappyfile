/- Equations of the reload normal form (`normJ`): `normF` as a map over an object's entries; what `normE` does to an entry in
each of the four regimes that the printer, the reload and the `separate_complex_types` pre-pass all distinguish — a list of
child objects, a child object, a simple keyword, anything else (left alone) — with the case analysis `entry_view`; what a
reload leaves alone; root objects. -/
import Mappy.Model.Reload
import Mappy.Lemmas.PrinterEq

namespace Mappy.Printer

theorem normF_map (T : Table) (ty : Option Str) (f : Fields) :
    normF T ty f = f.map fun kv => (kv.1, normE T ty kv.1 kv.2) := by
  induction f with
  | nil => rfl
  | cons kv r ih => simp only [normF, ih, List.map_cons]

theorem normE_atom (T : Table) (ty : Option Str) (attr : Str) (v : J) (hl : ∀ xs, v ≠ .list xs) (hd : ∀ g, v ≠ .dict g) :
    normE T ty attr v = if isMetaKey attr || isDataKey attr then v else normAt T ty attr v := by
  cases v <;> simp_all [normE]

theorem normE_meta (T : Table) (ty : Option Str) {a : Str} (v : J) (hm : isMetaKey a = true) : normE T ty a v = v := by
  cases v <;> simp [normE, hm]

section
variable {a : Str} (hm : isMetaKey a = false)
include hm

theorem normE_objs (T : Table) (ty : Option Str) (xs : List J) (ho : a ∈ Gen.objectListKeys) :
    normE T ty a (.list xs) = .list (normL T xs) := by
  simp [normE, hm, ho]

variable (hd : isDataKey a = false)
include hd

theorem normE_attr (T : Table) (ty : Option Str) {v : J} (hl : ∀ xs, v ≠ .list xs) (hg : ∀ g, v ≠ .dict g) :
    normE T ty a v = normAt T ty a v := by
  simp [normE_atom T ty a v hl hg, hm, hd]

theorem normE_obj (T : Table) (ty : Option Str) {v : J} (hc : isComposite v = true) : normE T ty a v = normJ T v := by
  cases v with
  | dict g =>
    have ht : hasKey s%"__type__" g = true := hc
    simp [normE, normJ, hm, hd, ht]
  | _ => cases hc

end

inductive EntryKind (a : Str) : J → Prop
  | objs (xs : List J) (hm : isMetaKey a = false) (ho : a ∈ Gen.objectListKeys) : EntryKind a (.list xs)
  | obj {v : J} (hm : isMetaKey a = false) (hd : isDataKey a = false) (hc : isComposite v = true) : EntryKind a v
  | attr {v : J} (hm : isMetaKey a = false) (hd : isDataKey a = false) (hl : ∀ xs, v ≠ .list xs) (hg : ∀ g, v ≠ .dict g) :
    EntryKind a v
  | other {v : J} (hn : ∀ T ty, normE T ty a v = v) (hs : ∀ level, sepVal level a v = v) : EntryKind a v

theorem entry_view (a : Str) (v : J) : EntryKind a v := by
  cases hm : isMetaKey a
  case true => exact .other (fun T ty => normE_meta T ty v hm) (fun level => sepVal_meta level v hm)
  induction v using J.kindCases with
  | list xs =>
    by_cases ho : a ∈ Gen.objectListKeys
    · exact .objs xs hm ho
    · exact .other (fun T ty => by simp [normE, ho]) (fun level => by simp [sepVal, sepChild, hm, ho])
  | dict g =>
    cases hd : isDataKey a
    case true => exact .other (fun T ty => by simp [normE, hd]) (fun level => by simp [sepVal, hm, hd])
    cases ht : hasKey s%"__type__" g
    case true => exact .obj hm hd ht
    exact .other (fun T ty => by simp [normE, ht]) (fun level => by simp [sepVal, sepChild, hm, hd, ht])
  | atom v hl hg =>
    cases hd : isDataKey a
    case false => exact .attr hm hd hl hg
    exact .other (fun T ty => by simp [normE_atom T ty a v hl hg, hd]) (fun level => sepVal_scalar level a hl hg)

theorem lookup_normF (T : Table) (ty : Option Str) (k : Str) (hk : isMetaKey k = true) (f : Fields) :
    lookup k (normF T ty f) = lookup k f := by
  rw [normF_map]; exact lookup_map_val k _ (fun v => normE_meta T ty v hk) f

theorem typeOf_normF (T : Table) (ty : Option Str) (f : Fields) : typeOf (normF T ty f) = typeOf f := by
  simp only [typeOf, lookup_normF T ty _ isMeta_type]

theorem isComposite_normJ (T : Table) (j : J) : isComposite (normJ T j) = isComposite j := by
  cases j with
  | dict f => simp only [normJ, isComposite, hasKey, lookup_normF T _ _ isMeta_type]
  | _ => rfl

theorem normJ_atom (T : Table) {j : J} (h : ∀ f, j ≠ .dict f) : normJ T j = j := by
  cases j with
  | dict f => exact absurd rfl (h f)
  | _ => rfl

theorem normRoot_eq (T : Table) (x : J) : normRoot T x = if isFmtRoot x then normJ T x else x := by
  cases x with
  | dict f =>
    cases h : lookup s%"__type__" f with
    | none => simp only [normRoot, isFmtRoot, h, Bool.false_eq_true, if_false]
    | some t =>
      cases t with
      | str t =>
        simp only [normRoot, isFmtRoot, h]
        generalize (_ || _ || _ : Bool) = b
        cases b <;> rfl
      | _ => simp only [normRoot, isFmtRoot, h, Bool.false_eq_true, if_false]
  | _ => rfl

theorem isFmtRoot_normJ (T : Table) (x : J) : isFmtRoot (normJ T x) = isFmtRoot x := by
  cases x <;> first | rfl | exact isFmtRoot_congr (lookup_normF T _ _ isMeta_type _)

end Mappy.Printer
