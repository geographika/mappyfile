/- What `format_value` writes for a string, an integer and a float, by the regime of the keyword's schema cell; every
value-level theorem (C01, C03, C04) starts from these. -/
import Mappy.Model.Reload

namespace Mappy.Printer
open Quoter

theorem optsRewrite_eq (q : Char) (attr : Str) (os : List Opt) (s : Str) :
    optsRewrite q attr os s = if guardsFree attr s then checkOptionsList q s os else s := by
  unfold optsRewrite guardsFree
  generalize inParenthesis s = a, (decide (attr = s%"expression") && inBraces s) = b,
    (decide (attr ≠ s%"text") && inBrackets s) = c, (startsWith s%"NOT " s && inParenthesis (s.drop 4)) = d
  cases a <;> cases b <;> cases c <;> cases d <;> rfl

theorem formatValue_str (q : Char) (attr : Str) (p : CellProps) (s : Str) :
    formatValue q attr p (.str s) =
      if p.hasEnum then .ok (if attr = s%"compop" then addQuotes q s else upper s)
      else if p.typeString then
        if p.isExpr then
          if inSlashes s then .ok s
          else if endsWith s%"'i" s || endsWith s%"\"i" s then .ok s
          else .ok (addQuotes q s)
        else .ok (addQuotes q s)
      else .ok (escapeQuotes q (match p.opts with
        | some os => if guardsFree attr s then checkOptionsList q s os else s
        | none => s)) := by
  simp only [formatValue, pyStr, ← optsRewrite_eq]
  cases p.opts <;> rfl

theorem formatValue_int (q : Char) (attr : Str) (p : CellProps) (n : Int) :
    formatValue q attr p (.int n) =
      if p.hasEnum || !p.typeString then .ok (intStr n)
      else if p.isExpr then .error .attributeError else .ok (addQuotes q (intStr n)) := by
  simp only [formatValue, pyStr]
  cases p.hasEnum <;> cases p.typeString <;> cases p.opts <;> rfl

theorem formatValue_flt (q : Char) (attr : Str) (p : CellProps) (x : Str) :
    formatValue q attr p (.flt x) =
      if p.hasEnum || !p.typeString then .ok x
      else if p.isExpr then .error .attributeError else .ok (addQuotes q x) := by
  simp only [formatValue, pyStr]
  cases p.hasEnum <;> cases p.typeString <;> cases p.opts <;> rfl

end Mappy.Printer
