/-
  Equations and inversions for Model/Transformer.lean: what `mainT`, the call-backs, `attr`, `attrParts`, `composite` and one
  step of its fold do on the forms of input the theorems meet, and what a successful call tells.
-/
import Mappy.Model.Transformer
import Mappy.Lemmas.Assoc

namespace Mappy.RoundTrip
open Mappy.Transformer

/-- the value `attr` stores for a single value token: strings lose their outer quotes -/
def stored (vt : Tok) : J := match vt.val with | .str s => J.str (cleanString s) | x => x

end Mappy.RoundTrip

namespace Mappy.Transformer
open RoundTrip (stored)

theorem mainT_tree (cfg : Cfg) (data : Str) (cm : Option (List Str)) (xs : List R) :
    mainT cfg (.tree data cm xs) = mainTL cfg xs >>= callback cfg data cm := by rw [mainT]

theorem mainTL_cons (cfg : Cfg) (x : R) (r : List R) :
    mainTL cfg (x :: r) = mainT cfg x >>= fun x' => mainTL cfg r >>= fun r' => pure (x' :: r') := by rw [mainTL]

theorem mainT_tree_ok {cfg : Cfg} {xs xs' : List R} (data : Str) (cm : Option (List Str)) (h : mainTL cfg xs = .ok xs') :
    mainT cfg (.tree data cm xs) = callback cfg data cm xs' := by
  rw [mainT_tree, h]; rfl

theorem mainTL_cons_ok {cfg : Cfg} {x x' : R} {r r' : List R} (hx : mainT cfg x = .ok x') (hr : mainTL cfg r = .ok r') :
    mainTL cfg (x :: r) = .ok (x' :: r') := by
  rw [mainTL_cons, hx, hr]; rfl

theorem mainT_tree_inv {cfg : Cfg} {data : Str} {cm : Option (List Str)} {xs : List R} {r : R}
    (h : mainT cfg (.tree data cm xs) = .ok r) : ∃ xs', mainTL cfg xs = .ok xs' ∧ callback cfg data cm xs' = .ok r :=
  bind_ok (mainT_tree .. ▸ h)

theorem mainTL_cons_inv {cfg : Cfg} {x : R} {r rs : List R} (h : mainTL cfg (x :: r) = .ok rs) :
    ∃ a b, rs = a :: b ∧ mainT cfg x = .ok a ∧ mainTL cfg r = .ok b := by
  obtain ⟨a, ha, h⟩ := bind_ok (mainTL_cons .. ▸ h)
  obtain ⟨b, hb, h⟩ := bind_ok h
  cases h
  exact ⟨a, b, rfl, ha, hb⟩

/-! ### the call-backs, by rule name (the dispatch on a literal name computes) -/

theorem callback_start (cfg : Cfg) (cm : Option (List Str)) (t : List R) :
    callback cfg s%"start" cm t = match t with | [x] => .ok x | _ => .ok (.seq false t) := by
  show (match t with | [x] => pure x | _ => pure (.seq false t) : Res R) = _
  split <;> rfl

theorem callback_type (cfg : Cfg) (cm : Option (List Str)) (t : List R) :
    callback cfg s%"composite_type" cm t = .ok (.seq false t) := rfl

theorem callback_body (cfg : Cfg) (cm : Option (List Str)) (t : List R) :
    callback cfg s%"composite_body" cm t = .ok (.seq false t) := rfl

theorem callback_composite (cfg : Cfg) (cm : Option (List Str)) (t : List R) :
    callback cfg s%"composite" cm t = composite cfg Gen.singletonNames Gen.repeatedKeys t := rfl

theorem callback_attr (cfg : Cfg) (cm : Option (List Str)) (t : List R) : callback cfg s%"attr" cm t = attr t := rfl

theorem callback_kv (cfg : Cfg) (data : Str) (cm : Option (List Str)) (ts : List R)
    (hd : kvNames.contains data = true) : callback cfg data cm ts = valuePairs cfg data ts := by
  simp only [kvNames, List.contains_cons, List.contains_nil, Bool.or_false, Bool.or_eq_true, beq_iff_eq] at hd
  rcases hd with rfl | rfl | rfl | rfl <;> rfl

theorem callback_passthrough (cfg : Cfg) (cls : Str) (cm : Option (List Str)) (t : R)
    (hc : cls = s%"string" ∨ cls = s%"path" ∨ cls = s%"regexp" ∨ cls = s%"runtime_var") :
    callback cfg cls cm [t] = .ok t := by
  rcases hc with rfl | rfl | rfl | rfl <;> rfl

theorem flatten_toks : (ts : List Tok) → flatten (ts.map .tok) = .ok ts
  | [] => rfl
  | t :: r => by simp only [List.map_cons, flatten, flatten_toks r]; rfl

theorem mapM_tokOf : (ts : List Tok) → (ts.map R.tok).mapM tokOf = .ok ts
  | [] => rfl
  | t :: r => by simp only [List.map_cons, List.mapM_cons, tokOf, mapM_tokOf r]; rfl

/-- the position record `attr` builds: the keyword token's own line and column, then the position of every value
token in source order -/
def attrPos (k : Tok) (ts : List Tok) : J :=
  .dict [(s%"line", k.line), (s%"column", k.col), (s%"values", .list (ts.map posPair))]

/-- the dict `attr` returns for keyword token `k` (lower-cased name `kn`), value tokens `ts` and value `v` -/
def attrDict (k : Tok) (kn : Str) (ts : List Tok) (v : J) : List (Str × AV) :=
  [(s%"__position__", .j (attrPos k ts)), (s%"__tokens__", .toks (k :: ts)), (kn, .j v)]

theorem ne_of_underscored {k k' : Str} (hk : underscored k = false) (hk' : underscored k' = true) : k' ≠ k := by
  intro e; rw [e, hk] at hk'; cases hk'

theorem setAV_attrDict (k : Tok) (kn : Str) (ts : List Tok) (v : J) (hu : underscored kn = false) :
    setAV kn (.j v) (setAV s%"__tokens__" (.toks (k :: ts)) [(s%"__position__", .j (attrPos k ts))]) = attrDict k kn ts v := by
  have h1 : s%"__position__" ≠ kn := ne_of_underscored hu (by decide)
  have h2 : s%"__tokens__" ≠ kn := ne_of_underscored hu (by decide)
  simp [setAV, h1, h2, attrDict]

theorem lookupAV_attrDict (k : Tok) (kn : Str) (ts : List Tok) (v : J) (hu : underscored kn = false) :
    lookupAV kn (attrDict k kn ts v) = some (.j v) := by
  have h1 : s%"__position__" ≠ kn := ne_of_underscored hu (by decide)
  have h2 : s%"__tokens__" ≠ kn := ne_of_underscored hu (by decide)
  simp only [attrDict, lookupAV, h1, h2, if_false, if_true]

theorem attr_one (k vt : Tok) (kn : Str) (hk : valLower k = .ok kn) (hu : underscored kn = false) :
    attr [.tok k, .tok vt] = .ok (.adict (attrDict k kn [vt] (stored vt))) := by
  simp only [attr, nth, tokOf, hk, hu, isSeq, positionDict, flatten, List.drop, List.length_cons, List.length_nil,
    List.getElem?_cons_zero, bind, Except.bind, pure, Except.pure, Bool.false_eq_true, if_false]
  rw [← setAV_attrDict k kn [vt] _ hu]
  rfl

theorem attr_many (k : Tok) (ts : List Tok) (kn : Str) (hk : valLower k = .ok kn) (hu : underscored kn = false)
    (hc : kn ≠ s%"config") (hl : 1 < ts.length) :
    attr (.tok k :: ts.map .tok) = .ok (.adict (attrDict k kn ts (.list (ts.map (·.val))))) := by
  match ts, hl with
  | t :: t2 :: r, _ =>
    have hl' : 1 < (R.tok t :: R.tok t2 :: r.map R.tok).length := by simp
    simp only [attr, nth, tokOf, hk, hu, hc, isSeq, positionDict, flatten, List.drop, List.map_cons,
      List.getElem?_cons_zero, bind, Except.bind, pure, Except.pure, Bool.false_eq_true, if_false, hl', if_true,
      List.mapM_cons, mapM_tokOf, flatten_toks]
    rw [← setAV_attrDict k kn _ _ hu]
    rfl

/-- one tuple / list of value tokens (`rgb`, `num_pair`, `extent` …) is taken apart first -/
theorem attr_seq (k0 : R) (b : Bool) (t : Tok) (ts : List Tok) :
    attr [k0, .seq b (.tok t :: ts.map .tok)] = attr (k0 :: .tok t :: ts.map .tok) := rfl

def Adictly (x : Res R) : Prop := ∀ r, x = .ok r → ∃ kvs, r = .adict kvs

theorem Adictly.error (e : PyErr) : Adictly (.error e) := fun _ h => by cases h
theorem Adictly.pure (kvs : List (Str × AV)) : Adictly (pure (.adict kvs)) := fun _ h => by cases h; exact ⟨_, rfl⟩
theorem Adictly.bind {α : Type} {x : Res α} {f : α → Res R} (h : ∀ a, Adictly (f a)) : Adictly (x >>= f) :=
  fun r hr => let ⟨a, _, ha⟩ := bind_ok hr; h a r ha

/-- every path through `attr` ends in `pure (.adict _)` or an error.  The do-block shares two continuations between
its arms (after the key token, after the value list); `extract_lets` names them, so each is gone through once. -/
theorem Adictly.attr (ts : List R) : Adictly (attr ts) := by
  unfold Transformer.attr
  refine .bind fun k0 => ?_
  extract_lets vts0 afterKey
  have hK : ∀ t, Adictly (afterKey t) := by
    intro t
    refine .bind fun kn => ?_
    split
    · exact .error _
    · refine .bind fun first => ?_
      extract_lets afterVals
      have hV : ∀ vts, Adictly (afterVals vts) := by
        intro vts
        refine .bind fun pd => ?_
        extract_lets d0
        split
        · refine .bind fun toks => ?_
          split
          · split
            · split
              · exact .pure _
              · exact .error _
            · exact .error _
          · exact .pure _
        · exact .bind fun _ => .bind fun _ => .pure _
      clear_value afterVals
      split <;> exact .bind fun _ => hV _
  clear_value afterKey
  split
  · refine .bind fun _ => .bind fun _ => ?_
    split <;> exact .bind fun _ => hK _
  · exact .bind fun _ => hK _
  · exact .bind fun _ => hK _

theorem attr_key_ok {k : Tok} {rest : List R} {r : R} (h : attr (.tok k :: rest) = .ok r) :
    ∃ kn, valLower k = .ok kn ∧ underscored kn = false := by
  unfold attr at h
  obtain ⟨_, hk0, h⟩ := bind_ok h
  cases hk0
  extract_lets vts0 afterKey at h
  obtain ⟨_, ht, h⟩ := bind_ok (f := afterKey) h
  cases ht
  obtain ⟨kn, hk, h⟩ := bind_ok h
  split at h
  · cases h
  · rename_i hu; exact ⟨kn, hk, by simpa using hu⟩

theorem config_adictly (ts : List R) : Adictly (config ts) := by
  unfold config
  split
  · exact .error _
  · refine .bind fun _ => .bind fun _ => .bind fun _ => .bind fun _ => .bind fun _ => .bind fun _ => ?_
    split
    · exact .error _
    · exact .bind fun _ => .attr _

theorem projection_adictly (ts : List R) : Adictly (projection ts) := by
  unfold projection
  exact .bind fun _ => .bind fun _ => .bind fun _ => .bind fun _ => .bind fun _ => .attr _

theorem pairLists_adictly (name : Str) (ts : List R) : Adictly (pairLists name ts) := by
  unfold pairLists
  refine .bind fun _ => .bind fun _ => .bind fun _ => .bind fun x => ?_
  split <;> exact .bind fun _ => .attr _

theorem attrKV_guard (rest : List (Str × AV)) (key : Str) (v : J) (h : attrKV rest = .ok (key, v)) :
    underscored key = false ∧ stripJ v = v := by
  unfold attrKV at h
  split at h
  · split at h
    · cases h
    · split at h
      · rename_i hu hs; cases h; exact ⟨by simpa using hu, hs⟩
      · cases h
  all_goals cases h

theorem attrParts_guard (kvs : List (Str × AV)) (key : Str) (v pos : J) (h : attrParts kvs = .ok (key, v, pos)) :
    underscored key = false ∧ stripJ v = v := by
  unfold attrParts attrCore at h
  split at h
  · cases h
  · split at h
    · split at h
      · rename_i hk; cases h; exact attrKV_guard _ _ _ hk
      · cases h
    · cases h

theorem attrParts_attrDict (k : Tok) (kn : Str) (ts : List Tok) (v : J) (hu : underscored kn = false) (hv : stripJ v = v) :
    attrParts (attrDict k kn ts v) = .ok (kn, v, attrPos k ts) := by
  have h1 : kn ≠ s%"__position__" := (ne_of_underscored hu (by decide)).symm
  have h2 : kn ≠ s%"__tokens__" := (ne_of_underscored hu (by decide)).symm
  have h3 : kn ≠ s%"__comments__" := (ne_of_underscored hu (by decide)).symm
  have h4 : kn ≠ s%"__type__" := (ne_of_underscored hu (by decide)).symm
  simp [attrDict, attrParts, lookupAV, delAV, attrCore, attrKV, hu, hv, h1, h2, h3, h4]

theorem checkComposite_ok (name : Str) (k e : Tok) (body : List R) (hk : valLower k = .ok name)
    (he : valLower e = .ok s%"end") (hb : ∀ x ∈ body, ∃ b xs, x = .seq b xs) :
    checkComposite name (.tok k :: (body ++ [.tok e])) = .ok (k, body) := by
  have hlen : ¬ (R.tok k :: (body ++ [R.tok e])).length < 2 := by simp
  have hlast : (R.tok k :: (body ++ [R.tok e]))[(R.tok k :: (body ++ [R.tok e])).length - 1]? = some (R.tok e) := by
    simp
  have hbody : ((R.tok k :: (body ++ [R.tok e])).drop 1).dropLast = body := List.dropLast_concat
  simp only [checkComposite, hlen, if_false, nth, List.getElem?_cons_zero, tokOf, hk, he, hlast, hbody, bind, Except.bind,
    ne_eq, not_true_eq_false]
  rw [mapM_id_of_all _ _ (by intro x hx; obtain ⟨b, xs, rfl⟩ := hb x hx; rfl)]
  rfl

theorem pairKV_toks (b : Bool) (ta tb : Tok) (ka vb : Str) (rest : List R) (ha : ta.val = .str ka) (hb : tb.val = .str vb) :
    pairKV (.seq b (.tok ta :: .tok tb :: rest)) =
      if underscored (lower (cleanString ka)) then .error .unsupported
      else .ok (lower (cleanString ka), .str (cleanString vb)) := by
  simp only [pairKV, tokOf, strVal, ha, hb, bind, Except.bind]
  rfl

theorem composite_one (cfg : Cfg) (S Rp : List Str) (x : R) : composite cfg S Rp [x] = .ok x := rfl

theorem composite_pair (cfg : Cfg) (S Rp : List Str) (ty : R) (items : List R) :
    composite cfg S Rp [ty, .seq false items] =
      match compositeKey ty with
      | .ok key => compositeBody cfg S Rp key items
      | .error e => .error e := by
  simp only [composite]
  cases compositeKey ty <;> rfl

theorem compositeBody_ok {cfg : Cfg} {S Rp : List Str} {key : Tok} {items : List R} {r : R}
    (h : compositeBody cfg S Rp key items = .ok r) :
    ∃ kn st, valLower key = .ok kn ∧ items.foldlM (compositeItem cfg S Rp) (initState cfg kn key) = .ok st ∧
      r = .cdict (finishState cfg st) := by
  unfold compositeBody at h
  split at h
  · cases h
  · rename_i kn hk
    split at h
    · cases h
    · rename_i st hf
      cases h
      exact ⟨kn, st, hk, hf, rfl⟩

theorem compositeBody_of_fold {cfg : Cfg} {S Rp : List Str} {key : Tok} {items : List R} {kn : Str} {st : CState}
    (hk : valLower key = .ok kn) (hf : items.foldlM (compositeItem cfg S Rp) (initState cfg kn key) = .ok st) :
    compositeBody cfg S Rp key items = .ok (.cdict (finishState cfg st)) := by
  simp only [compositeBody, hk, hf]

/-- what an item does to the block's own dict: the position and comment records play no part in it -/
def dItem (S Rp : List Str) (d : Fields) : R → Res Fields
  | .cdict sub => blockItem S sub d
  | .adict kvs =>
    match attrParts kvs with
    | .ok (k, v, _) => dataStep Rp k v d
    | .error e => .error e
  | _ => .error .attributeError

theorem attrItem_data (cfg : Cfg) (Rp : List Str) (st st1 : CState) (k : Str) (v p : J) (c : Option J)
    (h1 : attrItem cfg Rp st k v p c = .ok st1) : dataStep Rp k v st.d = .ok st1.d := by
  unfold attrItem at h1
  split at h1
  · cases h1
  · rename_i d' hds
    split at h1
    · cases h1; exact hds
    · split at h1
      · cases h1
      · cases h1; exact hds

theorem compositeItem_d {cfg : Cfg} {S Rp : List Str} {st st' : CState} {r : R}
    (h : compositeItem cfg S Rp st r = .ok st') : dItem S Rp st.d r = .ok st'.d := by
  cases r with
  | cdict sub =>
    simp only [compositeItem] at h
    split at h
    · rename_i d' hb; cases h; exact hb
    · cases h
  | adict kvs =>
    simp only [compositeItem] at h
    simp only [dItem]
    split at h
    · rename_i key v pos hp; rw [hp]; exact attrItem_data _ _ _ _ _ _ _ _ h
    · cases h
  | tok _ | seq _ _ | str _ | tree _ _ _ => cases h

theorem compositeItem_plain {S Rp : List Str} {st : CState} {r : R} {d' : Fields} (cfg : Cfg) (hpd : st.pd = none)
    (h : dItem S Rp st.d r = .ok d') : ∃ st', compositeItem cfg S Rp st r = .ok st' ∧ st'.d = d' ∧ st'.pd = none := by
  cases r with
  | cdict sub => exact ⟨{ st with d := d' }, by simp only [compositeItem, show blockItem S sub st.d = .ok d' from h], rfl, hpd⟩
  | adict kvs =>
    simp only [dItem] at h
    split at h
    · rename_i key v pos hp
      exact ⟨{ d := d', pd := none, cd := comStep cfg Rp key (attrComments kvs) st.cd },
        by simp only [compositeItem, hp, attrItem, h, hpd], rfl, rfl⟩
    · cases h
  | tok _ | seq _ _ | str _ | tree _ _ _ => cases h

theorem foldlM_d {cfg : Cfg} {S Rp : List Str} : (items : List R) → ∀ {st st' : CState},
    items.foldlM (compositeItem cfg S Rp) st = .ok st' → items.foldlM (dItem S Rp) st.d = .ok st'.d
  | [], st, st', h => by cases h; rfl
  | r :: rs, st, st', h => by
    obtain ⟨st1, h1, h2⟩ := foldlM_cons_inv h
    rw [foldlM_cons_ok rs (compositeItem_d h1)]
    exact foldlM_d rs h2

theorem foldlM_plain (cfg : Cfg) {S Rp : List Str} : (items : List R) → ∀ {st : CState} {d' : Fields}, st.pd = none →
    items.foldlM (dItem S Rp) st.d = .ok d' →
    ∃ st', items.foldlM (compositeItem cfg S Rp) st = .ok st' ∧ st'.d = d' ∧ st'.pd = none
  | [], st, d', hpd, h => by cases h; exact ⟨st, rfl, rfl, hpd⟩
  | r :: rs, st, d', hpd, h => by
    obtain ⟨d1, h1, h2⟩ := foldlM_cons_inv h
    obtain ⟨st1, e1, rfl, hp1⟩ := compositeItem_plain cfg hpd h1
    obtain ⟨st', e2, hd, hp'⟩ := foldlM_plain cfg rs hp1 h2
    exact ⟨st', by rw [foldlM_cons_ok rs e1]; exact e2, hd, hp'⟩

theorem compositeBody_plain {cfg : Cfg} {S Rp : List Str} {key : Tok} {name : Str} {items : List R} {d : Fields}
    (hp : cfg.pos = false) (hc : cfg.com = false) (hname : valLower key = .ok name)
    (h : items.foldlM (dItem S Rp) [(s%"__type__", .str name)] = .ok d) :
    compositeBody cfg S Rp key items = .ok (.cdict d) := by
  have h0 : (initState cfg name key).d = [(s%"__type__", .str name)] := by simp [initState, hp, hc]
  obtain ⟨st', hf, rfl, hpd⟩ := foldlM_plain cfg items (st := initState cfg name key) (by simp [initState, hp]) (by rw [h0]; exact h)
  simp only [compositeBody, hname, hf, finishState, hpd, hc, Bool.false_eq_true, if_false]

theorem appendTo_fresh (k : Str) (v : J) (d : Fields) (h : k ∉ keys d) : appendTo k v d = .ok (d ++ [(k, .list [v])]) := by
  simp only [appendTo, (lookup_none_iff k d).mpr h, setKey_of_not_mem k _ d h]

theorem appendTo_last (k : Str) (v : J) (base : Fields) (xs : List J) (h : k ∉ keys base) :
    appendTo k v (base ++ [(k, .list xs)]) = .ok (base ++ [(k, .list (xs ++ [v]))]) := by
  simp only [appendTo, lookup_snoc_fresh k _ base h, setKey_snoc_fresh k _ _ base h]

theorem dataStep_repeated {Rp : List Str} {k : Str} (hR : Rp.contains k = true) (h1 : k ≠ s%"config") (h2 : k ≠ s%"points")
    (v : J) (d : Fields) : dataStep Rp k v d = appendTo k v d := by
  unfold dataStep; rw [if_neg h1, if_neg h2, if_pos hR]

/-- a plain keyword, or POINTS for the first time -/
theorem dataStep_fresh {Rp : List Str} {k : Str} (h1 : k ≠ s%"config") (hR : Rp.contains k = false) (v : J) {d : Fields}
    (h : k ∉ keys d) : dataStep Rp k v d = .ok (d ++ [(k, v)]) := by
  unfold dataStep
  rw [if_neg h1, (lookup_none_iff k d).mpr h, hR, setKey_of_not_mem k v d h]
  split <;> rfl

theorem blockItem_typed {S : List Str} {sub : Fields} {k : Str} (ht : lookup s%"__type__" sub = some (.str k))
    (hu : underscored k = false) (d : Fields) :
    blockItem S sub d = if S.contains k then .ok (setKey k (.dict sub) d) else appendTo (plural k) (.dict sub) d := by
  simp only [blockItem, ht, hu, Bool.false_eq_true, if_false]

end Mappy.Transformer
