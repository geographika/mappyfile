/- Unfolding lemmas for the `update` model (the loop is a fold of `entry`) and for `findkey`. -/
import Mappy.Model.DictUtils
import Mappy.Lemmas.Assoc

namespace Mappy.DictUtils

theorem updFields_cons (ci ow : Bool) (f1 : Fields) (k : Str) (v : J) (r : Fields) :
    updFields ci ow (.dict f1) ((k, v) :: r) =
      (entry ci ow k v f1).bind (fun f2 => updFields ci ow (.dict f2) r) := by
  cases v with
  | dict pv =>
    simp only [updFields, entry]
    split
    · split <;> rfl
    · cases lookup (nk ci k) f1 with
      | none => simp only []; cases updFields false ow (.dict []) pv <;> rfl
      | some sub => simp only []; cases updFields ci ow sub pv <;> rfl
  | list xs | tup xs =>
    simp only [updFields, entry]
    split
    · -- `updFields` spells out the body of `listMerge`
      show (match listMerge ci ow (nk ci k) f1 xs with | .ok l => _ | .error e => _) = _
      cases listMerge ci ow (nk ci k) f1 xs <;> rfl
    · rfl
  | _ => rfl

theorem findkey_nil (ci : Bool) (x : J) : findkey ci x [] = .ok x := by cases x <;> rfl

theorem findkey_cons_ok {ci : Bool} {x y : J} {e : PathEl} {r : List PathEl} (h : findkey ci x (e :: r) = .ok y) :
    (∃ f k v, x = .dict f ∧ e = .key k ∧ lookup (nk ci k) f = some v ∧ findkey ci v r = .ok y) ∨
    (∃ xs i v, x = .list xs ∧ e = .idx i ∧ pyIndex xs i = some v ∧ findkey ci v r = .ok y) := by
  cases x <;> cases e <;> try cases h
  -- what is left: an index step from a list, a key step from a dict
  all_goals simp only [findkey] at h
  · split at h
    · exact .inr ⟨_, _, _, rfl, rfl, ‹_›, h⟩
    · cases h
  · split at h
    · exact .inl ⟨_, _, _, rfl, rfl, ‹_›, h⟩
    · cases h

theorem findkey_append (ci : Bool) (p q : List PathEl) (d : J) :
    findkey ci d (p ++ q) = (findkey ci d p).bind (fun x => findkey ci x q) := by
  induction p generalizing d with
  | nil => rw [findkey_nil]; rfl
  | cons e p ih =>
    cases e <;> cases d <;> try rfl
    -- what is left: a key step from a dict, an index step from a list
    all_goals
      simp only [List.cons_append, findkey]
      split
      · exact ih _
      · rfl

theorem findkey_append_ok {ci : Bool} {p q : List PathEl} {x y : J} (h : findkey ci x (p ++ q) = .ok y) :
    ∃ z, findkey ci x p = .ok z ∧ findkey ci z q = .ok y :=
  bind_ok ((findkey_append ci p q x).symm.trans h)

end Mappy.DictUtils
