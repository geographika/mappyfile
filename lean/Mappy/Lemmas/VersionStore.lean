/-
  The version filter on the shared store (Model/Versioning.lean).  The in-place walk returns the *local filter* of what it
  is given, whatever the store went through before, and does to the store what following the references of its *trace*,
  one after the other, does (`walk_eq`); so what is to be known of a walk is a fact about the local filter or about a list
  of references.  Pruning a pruned load changes neither the returned schema nor the store (`walk_idem`).  Statements about
  a dict and about a list of alternatives are proved together, as the two halves of one `walk_induct` (Lemmas/JInd.lean).
-/
import Mappy.Model.Versioning
import Mappy.Lemmas.Assoc
import Mappy.Lemmas.JInd

namespace Mappy.Versioning

/-! ### the local filter: what one document looks like after the walk, references judged by `rv` -/

mutual
def lFields (v : Int) (rv : Str → Bool) : Fields → Fields
  | [] => []
  | (k, x) :: r =>
    match x with
    | .dict kvs =>
      match refOfFields kvs with
      | some u => if rv u then (k, x) :: lFields v rv r else lFields v rv r
      | none => if isValid v kvs then (k, .dict (lFields v rv kvs)) :: lFields v rv r else lFields v rv r
    | .list xs => (k, .list (lList v rv xs)) :: lFields v rv r
    | _ => (k, x) :: lFields v rv r
def lList (v : Int) (rv : Str → Bool) : List J → List J
  | [] => []
  | e :: es =>
    match e with
    | .dict kvs =>
      match refOfFields kvs with
      | some u => if rv u then e :: lList v rv es else lList v rv es
      | none => if isValid v kvs then .dict (lFields v rv kvs) :: lList v rv es else lList v rv es
    | _ => e :: lList v rv es
end

def lVal (v : Int) (rv : Str → Bool) : J → Option J
  | .dict kvs =>
    match refOfFields kvs with
    | some u => if rv u then some (.dict kvs) else none
    | none => if isValid v kvs then some (.dict (lFields v rv kvs)) else none
  | .list xs => some (.list (lList v rv xs))
  | x => some x

theorem lFields_cons (v : Int) (rv : Str → Bool) (k : Str) (x : J) (r : Fields) :
    lFields v rv ((k, x) :: r) =
      match lVal v rv x with | some y => (k, y) :: lFields v rv r | none => lFields v rv r := by
  cases x with
  | dict kvs => simp only [lFields, lVal]; split <;> split <;> rfl
  | _ => simp only [lFields, lVal]

theorem lVal_leaf (v : Int) (rv : Str → Bool) {x : J} (hd : ∀ kvs, x ≠ .dict kvs) (hl : ∀ xs, x ≠ .list xs) :
    lVal v rv x = some x := by
  cases x with
  | dict _ => exact absurd rfl (hd _)
  | list _ => exact absurd rfl (hl _)
  | _ => rfl

theorem lFields_leaf (v : Int) (rv : Str → Bool) {k : Str} {x : J} {r : Fields} (hd : ∀ kvs, x ≠ .dict kvs)
    (hl : ∀ xs, x ≠ .list xs) : lFields v rv ((k, x) :: r) = (k, x) :: lFields v rv r := by
  rw [lFields_cons, lVal_leaf v rv hd hl]

theorem lList_dict (v : Int) (rv : Str → Bool) (kvs : Fields) (es : List J) :
    lList v rv (.dict kvs :: es) =
      match lVal v rv (.dict kvs) with | some y => y :: lList v rv es | none => lList v rv es := by
  simp only [lList, lVal]; split <;> split <;> rfl

theorem lList_other (v : Int) (rv : Str → Bool) {x : J} {es : List J} (hd : ∀ kvs, x ≠ .dict kvs) :
    lList v rv (x :: es) = x :: lList v rv es := by
  cases x with
  | dict _ => exact absurd rfl (hd _)
  | _ => simp only [lList]

theorem keys_lFields (v : Int) (rv : Str → Bool) : (d : Fields) → (keys (lFields v rv d)).Sublist (keys d)
  | [] => by simp [lFields]
  | (k, x) :: r => by
    rw [lFields_cons]
    cases lVal v rv x with
    | none => exact (keys_lFields v rv r).cons _
    | some y => exact (keys_lFields v rv r).cons_cons _

theorem lookup_lFields (v : Int) (rv : Str → Bool) (k : Str) : (d : Fields) → (keys d).Nodup →
    lookup k (lFields v rv d) = (lookup k d).bind (lVal v rv)
  | [], _ => by simp [lFields, lookup]
  | (k', x) :: r, hn => by
    rw [keys_cons, List.nodup_cons] at hn
    have ih := lookup_lFields v rv k r hn.2
    rw [lFields_cons]
    by_cases hk : k' = k
    · have : lookup k' (lFields v rv r) = none :=
        (lookup_none_iff _ _).2 fun hm => hn.1 ((keys_lFields v rv r).subset hm)
      subst hk
      cases h : lVal v rv x <;> simp [lookup, h, this]
    · cases lVal v rv x <;> simp [lookup, hk, ih]

def isAtomJ : J → Bool
  | .dict _ => false
  | .list _ => false
  | _ => true

/-- the `metadata` entry of an object is absent, or a flat dict of plain values; when it is itself a reference (the
METADATA block property of an object schema, `{"$ref": "metadata.json"}`) it carries no bounds -/
def okMeta (d : Fields) : Bool :=
  match lookup metaKey d with
  | some (.dict md) =>
    md.all (fun kv => isAtomJ kv.2) &&
      ((refOfFields md).isNone || ((lookup minKey md).isNone && (lookup maxKey md).isNone))
  | some _ => false
  | none => true

/-- the versions the range test is meant for: between its defaults 0 and 1000 (versions are in thousandths) -/
def inRange (v : Int) : Prop := 0 ≤ v ∧ v ≤ 1000000

/-- keys are unique (as in every Python dict) -/
def uniq (kvs : Fields) : Bool := decide (keys kvs).Nodup

mutual
def wf : J → Bool
  | .dict kvs => okMeta kvs && uniq kvs && wfF kvs
  | .list xs => wfL xs
  | _ => true
def wfF : Fields → Bool
  | [] => true
  | (_, x) :: r => wf x && wfF r
def wfL : List J → Bool
  | [] => true
  | x :: r => wf x && wfL r
end

theorem wf_dict (kvs : Fields) : wf (.dict kvs) = true ↔ okMeta kvs = true ∧ (keys kvs).Nodup ∧ wfF kvs = true := by
  simp only [wf, uniq, Bool.and_eq_true, decide_eq_true_eq, and_assoc]

theorem wf_lookup {kvs : Fields} {k : Str} {x : J} (h : wf (.dict kvs) = true) (hl : lookup k kvs = some x) : wf x = true :=
  mem_of_all (fun _ _ _ => rfl) ((wf_dict kvs).1 h).2.2 (mem_of_lookup _ _ _ hl)

theorem lVal_str {v : Int} {rv : Str → Bool} {x : J} {s : Str} (h : lVal v rv x = some (.str s)) : x = .str s := by
  cases x with
  | dict kvs => simp only [lVal] at h; split at h <;> split at h <;> cases h
  | list xs => cases h
  | _ => exact Option.some.inj h

theorem refOf_lFields_none (v : Int) (rv : Str → Bool) (d : Fields) (hn : (keys d).Nodup) (h : refOfFields d = none) :
    refOfFields (lFields v rv d) = none := by
  unfold refOfFields at h ⊢
  rw [lookup_lFields v rv _ d hn]
  split
  · rename_i u hu
    obtain ⟨x, hx, hxu⟩ := Option.bind_eq_some_iff.1 hu
    rw [hx, lVal_str hxu] at h
    cases h
  · rfl

theorem isAtomJ_iff {x : J} : isAtomJ x = true ↔ (∀ kvs, x ≠ .dict kvs) ∧ (∀ xs, x ≠ .list xs) := by
  cases x <;> simp [isAtomJ]

theorem lFields_atoms (v : Int) (rv : Str → Bool) : (md : Fields) → md.all (fun kv => isAtomJ kv.2) = true →
    lFields v rv md = md
  | [], _ => by simp only [lFields]
  | (k, x) :: r, h => by
    rw [List.all_cons, Bool.and_eq_true, isAtomJ_iff] at h
    rw [lFields_leaf v rv h.1.1 h.1.2, lFields_atoms v rv r h.2]

theorem atoms_valid (v : Int) (md : Fields) (h : md.all (fun kv => isAtomJ kv.2) = true) : isValid v md = true := by
  unfold isValid
  split
  · rename_i md' hl
    cases List.all_eq_true.1 h _ (mem_of_lookup _ _ _ hl)
  · rfl

theorem lookup_meta_lFields (v : Int) (rv : Str → Bool) (d : Fields) (h : okMeta d = true) (hn : (keys d).Nodup) :
    lookup metaKey (lFields v rv d) = lookup metaKey d ∨
    (lookup metaKey (lFields v rv d) = none ∧
      ∃ md, lookup metaKey d = some (.dict md) ∧ lookup minKey md = none ∧ lookup maxKey md = none) := by
  rw [lookup_lFields v rv _ d hn]
  unfold okMeta at h
  cases hl : lookup metaKey d with
  | none => exact Or.inl rfl
  | some x =>
    rw [hl] at h
    cases x with
    | dict md =>
      simp only [Bool.and_eq_true, Bool.or_eq_true, Option.isNone_iff_eq_none] at h
      simp only [Option.bind, lVal]
      cases hr : refOfFields md with
      | none => exact Or.inl (by simp [atoms_valid v md h.1, lFields_atoms v rv md h.1])
      | some u =>
        by_cases hv : rv u = true
        · exact Or.inl (by simp [hv])
        · have hb := h.2.resolve_left (by simp [hr])
          exact Or.inr ⟨by simp [hv], md, rfl, hb.1, hb.2⟩
    | _ => cases h

theorem isValid_lFields (v : Int) (rv : Str → Bool) (hv : inRange v) (d : Fields) (h : okMeta d = true)
    (hn : (keys d).Nodup) : isValid v (lFields v rv d) = isValid v d := by
  rcases lookup_meta_lFields v rv d h hn with e | ⟨e, md, hmd, h1, h2⟩
  · simp only [isValid, e]
  · simp only [isValid, e, hmd, minOf, maxOf, h1, h2]
    have := hv.1; have := hv.2
    simp; omega

theorem okMeta_lFields (v : Int) (rv : Str → Bool) (d : Fields) (h : okMeta d = true) (hn : (keys d).Nodup) :
    okMeta (lFields v rv d) = true := by
  rcases lookup_meta_lFields v rv d h hn with e | ⟨e, _⟩
  · simp only [okMeta, e]; exact h
  · simp only [okMeta, e]

theorem wf_dict_lFields (v : Int) (rv : Str → Bool) {doc : Fields} (h : wf (.dict doc) = true)
    (hF : wfF (lFields v rv doc) = true) : wf (.dict (lFields v rv doc)) = true := by
  rw [wf_dict] at h ⊢
  exact ⟨okMeta_lFields v rv doc h.1 h.2.1, (keys_lFields v rv doc).nodup h.2.1, hF⟩

theorem l_wf (v : Int) (rv : Str → Bool) :
    (∀ d, wfF d = true → wfF (lFields v rv d) = true) ∧ (∀ xs, wfL xs = true → wfL (lList v rv xs) = true) := by
  have hD : ∀ kvs, wf (.dict kvs) = true → (wfF kvs = true → wfF (lFields v rv kvs) = true) →
      ∀ y, lVal v rv (.dict kvs) = some y → wf y = true := by
    intro kvs h ih y hy
    simp only [lVal] at hy
    split at hy <;> split at hy <;> cases hy
    · exact h
    · exact wf_dict_lFields v rv h (ih ((wf_dict kvs).1 h).2.2)
  refine walk_induct ?_ ?_ ?_ ?_ ?_ ?_ ?_
  · intro _; simp only [lFields, wfF]
  · intro k kvs r ihk ihr h
    simp only [wfF, Bool.and_eq_true] at h
    rw [lFields_cons]
    cases hy : lVal v rv (.dict kvs) with
    | none => exact ihr h.2
    | some y => simp only [wfF, hD kvs h.1 ihk y hy, ihr h.2, Bool.and_self]
  · intro k xs r ihx ihr h
    simp only [wfF, wf, Bool.and_eq_true] at h
    simp only [lFields, wfF, wf, ihx h.1, ihr h.2, Bool.and_self]
  · intro k x r hd hl ihr h
    simp only [wfF, Bool.and_eq_true] at h
    simp only [lFields_leaf v rv hd hl, wfF, h.1, ihr h.2, Bool.and_self]
  · intro _; simp only [lList, wfL]
  · intro kvs es ihk ihe h
    simp only [wfL, Bool.and_eq_true] at h
    rw [lList_dict]
    cases hy : lVal v rv (.dict kvs) with
    | none => exact ihe h.2
    | some y => simp only [wfL, hD kvs h.1 ihk y hy, ihe h.2, Bool.and_self]
  · intro x es hd ihe h
    simp only [wfL, Bool.and_eq_true] at h
    simp only [lList_other v rv hd, wfL, h.1, ihe h.2, Bool.and_self]

theorem wfL_lList (v : Int) (rv : Str → Bool) : (xs : List J) → wfL xs = true → wfL (lList v rv xs) = true :=
  (l_wf v rv).2

theorem l_idem (v : Int) (rv : Str → Bool) (hR : inRange v) :
    (∀ d, wfF d = true → lFields v rv (lFields v rv d) = lFields v rv d) ∧
    (∀ xs, wfL xs = true → lList v rv (lList v rv xs) = lList v rv xs) := by
  have hD : ∀ kvs, wf (.dict kvs) = true → (wfF kvs = true → lFields v rv (lFields v rv kvs) = lFields v rv kvs) →
      ∀ y, lVal v rv (.dict kvs) = some y → ∃ kvs', y = .dict kvs' ∧ lVal v rv y = some y := by
    intro kvs h ih y hy
    obtain ⟨hm, hn, hF⟩ := (wf_dict kvs).1 h
    simp only [lVal] at hy
    cases hr : refOfFields kvs with
    | some u =>
      simp only [hr] at hy
      split at hy <;> cases hy
      exact ⟨kvs, rfl, by simp only [lVal, *, if_true]⟩
    | none =>
      simp only [hr] at hy
      split at hy <;> cases hy
      exact ⟨_, rfl, by simp only [lVal, refOf_lFields_none v rv kvs hn hr, isValid_lFields v rv hR kvs hm hn, *, if_true, ih hF]⟩
  refine walk_induct ?_ ?_ ?_ ?_ ?_ ?_ ?_
  · intro _; simp only [lFields]
  · intro k kvs r ihk ihr h
    simp only [wfF, Bool.and_eq_true] at h
    rw [lFields_cons]
    cases hy : lVal v rv (.dict kvs) with
    | none => exact ihr h.2
    | some y =>
      obtain ⟨kvs', rfl, hy'⟩ := hD kvs h.1 ihk y hy
      simp only [lFields_cons, hy', ihr h.2]
  · intro k xs r ihx ihr h
    simp only [wfF, wf, Bool.and_eq_true] at h
    simp only [lFields, ihx h.1, ihr h.2]
  · intro k x r hd hl ihr h
    simp only [wfF, Bool.and_eq_true] at h
    simp only [lFields_leaf v rv hd hl, ihr h.2]
  · intro _; simp only [lList]
  · intro kvs es ihk ihe h
    simp only [wfL, Bool.and_eq_true] at h
    rw [lList_dict]
    cases hy : lVal v rv (.dict kvs) with
    | none => exact ihe h.2
    | some y =>
      obtain ⟨kvs', rfl, hy'⟩ := hD kvs h.1 ihk y hy
      simp only [lList_dict, hy', ihe h.2]
  · intro x es hd ihe h
    simp only [wfL, Bool.and_eq_true] at h
    simp only [lList_other v rv hd, ihe h.2]

theorem lList_idem (v : Int) (rv : Str → Bool) (hR : inRange v) : (xs : List J) → wfL xs = true →
    lList v rv (lList v rv xs) = lList v rv xs :=
  (l_idem v rv hR).2

theorem fFields_leaf (v : Int) (fo : Str → Store → Store) (σ : Store) {k : Str} {x : J} {r : Fields}
    (hd : ∀ kvs, x ≠ .dict kvs) (hl : ∀ xs, x ≠ .list xs) :
    fFields v fo σ ((k, x) :: r) = ((k, x) :: (fFields v fo σ r).1, (fFields v fo σ r).2) := by
  cases x with
  | dict _ => exact absurd rfl (hd _)
  | list _ => exact absurd rfl (hl _)
  | _ => simp only [fFields]

theorem fList_other (v : Int) (fo : Str → Store → Store) (σ : Store) {x : J} {es : List J} (hd : ∀ kvs, x ≠ .dict kvs) :
    fList v fo σ (x :: es) = (x :: (fList v fo σ es).1, (fList v fo σ es).2) := by
  cases x with
  | dict _ => exact absurd rfl (hd _)
  | _ => simp only [fList]

structure Inv (v : Int) (rv : Str → Bool) (σ : Store) : Prop where
  valid : ∀ u, refValid v σ u = rv u
  wfdoc : ∀ u doc, lookup u σ = some (.dict doc) → wf (.dict doc) = true

theorem inv_files (v : Int) (files : Store) (hwf : ∀ f ∈ files, wf f.2 = true) : Inv v (refValid v files) files :=
  ⟨fun _ => rfl, fun u doc hl => hwf (u, .dict doc) (mem_of_lookup files u _ hl)⟩

theorem load_ok {files : Store} {name : Str} {L : Loaded} (h : load files name = .ok L) :
    lookup (fileOf name) files = some L.root ∧ L.store = files := by
  unfold load at h
  split at h
  · cases h
    exact ⟨‹_›, rfl⟩
  · cases h

/-! ### the skeleton of a dict, and its trace: the references the walk follows, in order -/

/-- all that a dict means for the store: its references and the tests that guard them.  A reference under a key is followed
whether or not the entry is kept, and an inline dict under a key is gone into even when it is dropped (the skeleton of its
entries is spliced in); an alternative is followed, or gone into, only when it is kept (validator.py 153–156 against
160–165).  The skeleton does not depend on the version: when a statement about the folder is evaluated, the kernel works it
out once per document and meets it again at every version. -/
inductive Sk where
  | ref (u : Str)
  | alt (u : Str)
  | grd (kvs : Fields) (body : List Sk)

mutual
def skJ : J → List Sk
  | .dict kvs => match refOfFields kvs with | some u => [.ref u] | none => skF kvs
  | .list xs => skL xs
  | _ => []
def skF : Fields → List Sk
  | [] => []
  | (_, x) :: r => skJ x ++ skF r
def skL : List J → List Sk
  | [] => []
  | .dict kvs :: es => (match refOfFields kvs with | some u => .alt u | none => .grd kvs (skF kvs)) :: skL es
  | _ :: es => skL es
end

mutual
def trace1 (v : Int) (rv : Str → Bool) : Sk → List Str
  | .ref u => [u]
  | .alt u => if rv u then [u] else []
  | .grd kvs b => if isValid v kvs then trace v rv b else []
/-- the references of a skeleton that the walk follows at version `v`, when references are judged by `rv` -/
def trace (v : Int) (rv : Str → Bool) : List Sk → List Str
  | [] => []
  | x :: r => trace1 v rv x ++ trace v rv r
end

def trF (v : Int) (rv : Str → Bool) (d : Fields) : List Str := trace v rv (skF d)
def trL (v : Int) (rv : Str → Bool) (xs : List J) : List Str := trace v rv (skL xs)

theorem trace_append (v : Int) (rv : Str → Bool) : (a b : List Sk) → trace v rv (a ++ b) = trace v rv a ++ trace v rv b
  | [], _ => rfl
  | x :: a, b => by simp only [List.cons_append, trace, trace_append v rv a b, List.append_assoc]

theorem trF_nil (v : Int) (rv : Str → Bool) : trF v rv [] = [] := rfl
theorem trL_nil (v : Int) (rv : Str → Bool) : trL v rv [] = [] := rfl

theorem trF_dict (v : Int) (rv : Str → Bool) (k : Str) (kvs r : Fields) :
    trF v rv ((k, .dict kvs) :: r) = (match refOfFields kvs with | some u => [u] | none => trF v rv kvs) ++ trF v rv r := by
  simp only [trF, skF, skJ, trace_append]
  cases refOfFields kvs <;> simp only [trace, trace1, List.append_nil]

theorem trF_list (v : Int) (rv : Str → Bool) (k : Str) (xs : List J) (r : Fields) :
    trF v rv ((k, .list xs) :: r) = trL v rv xs ++ trF v rv r := by
  simp only [trF, trL, skF, skJ, trace_append]

theorem trF_leaf (v : Int) (rv : Str → Bool) {k : Str} {x : J} {r : Fields} (hd : ∀ kvs, x ≠ .dict kvs)
    (hl : ∀ xs, x ≠ .list xs) : trF v rv ((k, x) :: r) = trF v rv r := by
  cases x with
  | dict _ => exact absurd rfl (hd _)
  | list _ => exact absurd rfl (hl _)
  | _ => simp only [trF, skF, skJ, List.nil_append]

theorem trL_dict (v : Int) (rv : Str → Bool) (kvs : Fields) (es : List J) :
    trL v rv (.dict kvs :: es) =
      (match refOfFields kvs with
       | some u => if rv u then [u] else []
       | none => if isValid v kvs then trF v rv kvs else []) ++ trL v rv es := by
  simp only [trL, trF, skL, trace]
  cases refOfFields kvs <;> simp only [trace1]

theorem trL_other (v : Int) (rv : Str → Bool) {x : J} {es : List J} (hd : ∀ kvs, x ≠ .dict kvs) :
    trL v rv (x :: es) = trL v rv es := by
  cases x with
  | dict _ => exact absurd rfl (hd _)
  | _ => simp only [trL, skL]

theorem foldl_inv {fo : Str → Store → Store} {P : Store → Prop} : (l : List Str) → (∀ u ∈ l, ∀ σ, P σ → P (fo u σ)) →
    ∀ σ, P σ → P (l.foldl (fun σ u => fo u σ) σ)
  | [], _, _, h => h
  | u :: r, hfo, σ, h =>
    foldl_inv r (fun w hw => hfo w (List.mem_cons_of_mem _ hw)) _ (hfo u (List.mem_cons_self ..) σ h)

/-- **the walk is the local filter and, for the store, the references of the trace followed one after the other** — under
any property `P` of stores that fixes how references are judged and that following keeps -/
theorem walk_eq (v : Int) (rv : Str → Bool) (fo : Str → Store → Store) (P : Store → Prop)
    (hP : ∀ σ, P σ → ∀ u, refValid v σ u = rv u) :
    (∀ d, (∀ u ∈ trF v rv d, ∀ σ, P σ → P (fo u σ)) → ∀ σ, P σ →
      fFields v fo σ d = (lFields v rv d, (trF v rv d).foldl (fun σ u => fo u σ) σ)) ∧
    (∀ xs, (∀ u ∈ trL v rv xs, ∀ σ, P σ → P (fo u σ)) → ∀ σ, P σ →
      fList v fo σ xs = (lList v rv xs, (trL v rv xs).foldl (fun σ u => fo u σ) σ)) := by
  refine walk_induct ?_ ?_ ?_ ?_ ?_ ?_ ?_
  · intro _ σ _; simp only [fFields, lFields, trF_nil, List.foldl_nil]
  · intro k kvs r ihk ihr hfo σ h
    simp only [trF_dict, List.mem_append] at hfo
    cases hr : refOfFields kvs with
    | some u =>
      simp only [hr] at hfo
      simp only [fFields, lFields, trF_dict, hr, hP σ h u, List.foldl_append, List.foldl_cons, List.foldl_nil,
        ihr (fun w hw => hfo w (Or.inr hw)) _ (hfo u (Or.inl (List.mem_singleton.2 rfl)) σ h)]
    | none =>
      simp only [hr] at hfo
      have hk := fun w hw => hfo w (Or.inl hw)
      simp only [fFields, lFields, trF_dict, hr, List.foldl_append, ihk hk σ h,
        ihr (fun w hw => hfo w (Or.inr hw)) _ (foldl_inv _ hk σ h)]
  · intro k xs r ihx ihr hfo σ h
    simp only [trF_list, List.mem_append] at hfo
    have hx := fun w hw => hfo w (Or.inl hw)
    simp only [fFields, lFields, trF_list, List.foldl_append, ihx hx σ h,
      ihr (fun w hw => hfo w (Or.inr hw)) _ (foldl_inv _ hx σ h)]
  · intro k x r hd hl ihr hfo σ h
    rw [trF_leaf v rv hd hl] at hfo ⊢
    simp only [fFields_leaf v fo σ hd hl, lFields_leaf v rv hd hl, ihr hfo σ h]
  · intro _ σ _; simp only [fList, lList, trL_nil, List.foldl_nil]
  · intro kvs es ihk ihe hfo σ h
    simp only [trL_dict, List.mem_append] at hfo
    have he := fun w hw => hfo w (Or.inr hw)
    cases hr : refOfFields kvs with
    | some u =>
      simp only [hr] at hfo
      simp only [fList, lList, trL_dict, hr, hP σ h u]
      split
      · rename_i hv
        simp only [hv, if_true, List.mem_singleton] at hfo
        simp only [List.foldl_append, List.foldl_cons, List.foldl_nil, ihe he _ (hfo u (Or.inl rfl) σ h)]
      · simp only [List.nil_append, ihe he σ h]
    | none =>
      simp only [hr] at hfo
      simp only [fList, lList, trL_dict, hr]
      split
      · rename_i hv
        simp only [hv, if_true] at hfo
        have hk := fun w hw => hfo w (Or.inl hw)
        simp only [List.foldl_append, ihk hk σ h, ihe he _ (foldl_inv _ hk σ h)]
      · simp only [List.nil_append, ihe he σ h]
  · intro x es hd ihe hfo σ h
    rw [trL_other v rv hd] at hfo ⊢
    simp only [fList_other v fo σ hd, lList_other v rv hd, ihe hfo σ h]

/-- `walk_eq` for stores under `Inv`, the form in which `follow` meets it -/
theorem walk_inv (v : Int) (rv : Str → Bool) (fo : Str → Store → Store) (hfo : ∀ u σ, Inv v rv σ → Inv v rv (fo u σ)) :
    (∀ d σ, Inv v rv σ → fFields v fo σ d = (lFields v rv d, (trF v rv d).foldl (fun σ u => fo u σ) σ)) ∧
    (∀ xs σ, Inv v rv σ → fList v fo σ xs = (lList v rv xs, (trL v rv xs).foldl (fun σ u => fo u σ) σ)) :=
  have h := walk_eq v rv fo (Inv v rv) fun _ h => h.valid
  ⟨fun d => h.1 d fun u _ => hfo u, fun xs => h.2 xs fun u _ => hfo u⟩

theorem fFields_local (v : Int) (rv : Str → Bool) (fo : Str → Store → Store)
    (hfo : ∀ u σ, Inv v rv σ → Inv v rv (fo u σ)) :
    (d : Fields) → ∀ σ, Inv v rv σ → (fFields v fo σ d).1 = lFields v rv d ∧ Inv v rv (fFields v fo σ d).2 :=
  fun d σ h => by
    rw [(walk_inv v rv fo hfo).1 d σ h]
    exact ⟨rfl, foldl_inv _ (fun u _ => hfo u) σ h⟩

theorem follow_dict (v : Int) (n : Nat) {u : Str} {σ : Store} {doc : Fields} (hl : lookup u σ = some (.dict doc)) :
    follow v (n + 1) u σ =
      setKey u (.dict (fFields v (follow v n) σ doc).1) (fFields v (follow v n) σ doc).2 := by
  simp only [follow, hl]

theorem follow_other (v : Int) (n : Nat) {u : Str} {σ : Store} (hl : ∀ doc, lookup u σ ≠ some (.dict doc)) :
    follow v (n + 1) u σ = σ := by
  unfold follow
  split
  · exact absurd ‹_› (hl _)
  · rfl

theorem follow_inv (v : Int) (rv : Str → Bool) (hv : inRange v) : (n : Nat) → ∀ u σ, Inv v rv σ → Inv v rv (follow v n u σ)
  | 0, u, σ, h => h
  | n + 1, u, σ, h => by
    by_cases hl : ∃ doc, lookup u σ = some (.dict doc)
    · obtain ⟨doc, hl⟩ := hl
      rw [follow_dict v n hl]
      obtain ⟨e, h1⟩ := fFields_local v rv (follow v n) (follow_inv v rv hv n) doc σ h
      rw [e]
      have hw := h.wfdoc u doc hl
      obtain ⟨hok, hnd, hF⟩ := (wf_dict doc).1 hw
      have hvu : isValid v doc = rv u := by simpa [refValid, hl] using h.valid u
      constructor
      · intro u'
        simp only [refValid, lookup_setKey]
        by_cases hu : u' = u
        · subst hu; simp [isValid_lFields v rv hv doc hok hnd, hvu]
        · simp only [hu, if_false]; exact h1.valid u'
      · intro u' doc' hl'
        rw [lookup_setKey] at hl'
        by_cases hu : u' = u
        · simp only [hu, if_true] at hl'
          cases hl'
          exact wf_dict_lFields v rv hw ((l_wf v rv).1 doc hF)
        · simp only [hu, if_false] at hl'
          exact h1.wfdoc u' doc' hl'
    · rw [follow_other v n fun doc hd => hl ⟨doc, hd⟩]; exact h

mutual
/-- the references the walk follows inside a dict that is already filtered (inline dicts and lists are walked into) -/
def frefsF : Fields → List Str
  | [] => []
  | (_, .dict kvs) :: r => (match refOfFields kvs with | some u => [u] | none => frefsF kvs) ++ frefsF r
  | (_, .list xs) :: r => frefsL xs ++ frefsF r
  | _ :: r => frefsF r
def frefsL : List J → List Str
  | [] => []
  | .dict kvs :: es => (match refOfFields kvs with | some u => [u] | none => frefsF kvs) ++ frefsL es
  | _ :: es => frefsL es
end

theorem frefsF_leaf {k : Str} {x : J} {r : Fields} (hd : ∀ kvs, x ≠ .dict kvs) (hl : ∀ xs, x ≠ .list xs) :
    frefsF ((k, x) :: r) = frefsF r := by
  cases x with
  | dict _ => exact absurd rfl (hd _)
  | list _ => exact absurd rfl (hl _)
  | _ => simp only [frefsF]

theorem frefsL_other {x : J} {es : List J} (hd : ∀ kvs, x ≠ .dict kvs) : frefsL (x :: es) = frefsL es := by
  cases x with
  | dict _ => exact absurd rfl (hd _)
  | _ => simp only [frefsL]

/-- the trace is part of the references of the dict -/
theorem tr_sub (v : Int) (rv : Str → Bool) :
    (∀ d, (trF v rv d).Sublist (frefsF d)) ∧ (∀ xs, (trL v rv xs).Sublist (frefsL xs)) := by
  refine walk_induct ?_ ?_ ?_ ?_ ?_ ?_ ?_
  · simp only [trF_nil, frefsF, List.Sublist.refl]
  · intro k kvs r ihk ihr
    simp only [trF_dict, frefsF]
    refine .append ?_ ihr
    cases refOfFields kvs with
    | some u => exact .refl _
    | none => exact ihk
  · intro k xs r ihx ihr
    simp only [trF_list, frefsF]
    exact ihx.append ihr
  · intro k x r hd hl ihr
    rwa [trF_leaf v rv hd hl, frefsF_leaf hd hl]
  · simp only [trL_nil, frefsL, List.Sublist.refl]
  · intro kvs es ihk ihe
    simp only [trL_dict, frefsL]
    refine .append ?_ ihe
    cases refOfFields kvs with
    | some u => simp only; split <;> simp
    | none => simp only; split; exact ihk; exact List.nil_sublist _
  · intro x es hd ihe
    rwa [trL_other v rv hd, frefsL_other hd]

/-- where following changes nothing the walk returns the local filter and leaves the store alone -/
theorem walk_still (v : Int) (rv : Str → Bool) (fo : Str → Store → Store) (σ : Store) (hI : Inv v rv σ) :
    (∀ d, (∀ u ∈ frefsF d, fo u σ = σ) → fFields v fo σ d = (lFields v rv d, σ)) ∧
    (∀ xs, (∀ u ∈ frefsL xs, fo u σ = σ) → fList v fo σ xs = (lList v rv xs, σ)) := by
  have h := walk_eq v rv fo (· = σ) fun _ e => e ▸ hI.valid
  constructor
  · intro d hfo
    have hP : ∀ u ∈ trF v rv d, ∀ σ', σ' = σ → fo u σ' = σ := fun u hu _ e => e ▸ hfo u ((tr_sub v rv).1 d |>.subset hu)
    rw [h.1 d hP σ rfl, foldl_inv _ hP σ rfl]
  · intro xs hfo
    have hP : ∀ u ∈ trL v rv xs, ∀ σ', σ' = σ → fo u σ' = σ := fun u hu _ e => e ▸ hfo u ((tr_sub v rv).2 xs |>.subset hu)
    rw [h.2 xs hP σ rfl, foldl_inv _ hP σ rfl]

theorem fFields_fixed (v : Int) (rv : Str → Bool) (fo : Str → Store → Store) (σ : Store) (hI : Inv v rv σ) :
    (d : Fields) → lFields v rv d = d → (∀ u ∈ frefsF d, fo u σ = σ) → fFields v fo σ d = (d, σ) :=
  fun d hfix hfo => by rw [(walk_still v rv fo σ hI).1 d hfo, hfix]

theorem fList_fixed (v : Int) (rv : Str → Bool) (fo : Str → Store → Store) (σ : Store) (hI : Inv v rv σ) :
    (xs : List J) → lList v rv xs = xs → (∀ u ∈ frefsL xs, fo u σ = σ) → fList v fo σ xs = (xs, σ) :=
  fun xs hfix hfo => by rw [(walk_still v rv fo σ hI).2 xs hfo, hfix]
/-- every document reachable within `n` followed references is already filtered -/
def DC (v : Int) (rv : Str → Bool) (σ : Store) : Nat → Str → Prop
  | 0, _ => True
  | n + 1, u => ∀ doc, lookup u σ = some (.dict doc) → lFields v rv doc = doc ∧ ∀ u' ∈ frefsF doc, DC v rv σ n u'

theorem follow_fixed (v : Int) (rv : Str → Bool) (σ : Store) (hI : Inv v rv σ) :
    (n : Nat) → ∀ u, DC v rv σ n u → follow v n u σ = σ
  | 0, u, _ => rfl
  | n + 1, u, h => by
    by_cases hl : ∃ doc, lookup u σ = some (.dict doc)
    · obtain ⟨doc, hl⟩ := hl
      obtain ⟨hfix, hrefs⟩ := h doc hl
      rw [follow_dict v n hl,
        fFields_fixed v rv (follow v n) σ hI doc hfix fun w hw => follow_fixed v rv σ hI n w (hrefs w hw)]
      exact setKey_same u _ σ hl
    · exact follow_other v n fun doc hd => hl ⟨doc, hd⟩

structure Pres (v : Int) (rv : Str → Bool) (σ σ' : Store) : Prop where
  keep : ∀ w doc, lookup w σ = some (.dict doc) → lFields v rv doc = doc → lookup w σ' = some (.dict doc)
  old : ∀ w doc', lookup w σ' = some (.dict doc') → ∃ doc, lookup w σ = some (.dict doc)

theorem Pres.refl (v : Int) (rv : Str → Bool) (σ : Store) : Pres v rv σ σ :=
  ⟨fun _ _ h _ => h, fun _ d h => ⟨d, h⟩⟩

theorem Pres.trans {v : Int} {rv : Str → Bool} {a b c : Store} (h1 : Pres v rv a b) (h2 : Pres v rv b c) : Pres v rv a c :=
  ⟨fun w doc hl hf => h2.keep w doc (h1.keep w doc hl hf) hf,
   fun w d hl => by obtain ⟨d1, h⟩ := h2.old w d hl; exact h1.old w d1 h⟩

theorem DC_mono {v : Int} {rv : Str → Bool} {σ σ' : Store} (hp : Pres v rv σ σ') :
    (n : Nat) → ∀ u, DC v rv σ n u → DC v rv σ' n u
  | 0, _, _ => trivial
  | n + 1, u, h => by
    intro doc' hl'
    obtain ⟨doc, hl⟩ := hp.old u doc' hl'
    obtain ⟨hfix, hrefs⟩ := h doc hl
    rw [hp.keep u doc hl hfix] at hl'
    cases hl'
    exact ⟨hfix, fun w hw => DC_mono hp n w (hrefs w hw)⟩

theorem DC_le (v : Int) (rv : Str → Bool) (σ : Store) : (m n : Nat) → m ≤ n → ∀ u, DC v rv σ n u → DC v rv σ m u
  | 0, _, _, _, _ => trivial
  | m + 1, n + 1, hle, u, h => fun doc hl =>
    ⟨(h doc hl).1, fun w hw => DC_le v rv σ m n (by omega) w ((h doc hl).2 w hw)⟩

def FoSpec (v : Int) (rv : Str → Bool) (n : Nat) (fo : Str → Store → Store) : Prop :=
  ∀ u σ, Inv v rv σ → Inv v rv (fo u σ) ∧ DC v rv (fo u σ) n u ∧ Pres v rv σ (fo u σ)

/-- the references left in the local filter are part of the trace -/
theorem frefs_l_sub (v : Int) (rv : Str → Bool) :
    (∀ d, wfF d = true → (frefsF (lFields v rv d)).Sublist (trF v rv d)) ∧
    (∀ xs, wfL xs = true → (frefsL (lList v rv xs)).Sublist (trL v rv xs)) := by
  refine walk_induct ?_ ?_ ?_ ?_ ?_ ?_ ?_
  · intro _; simp only [lFields, trF_nil, frefsF, List.Sublist.refl]
  · intro k kvs r ihk ihr h
    simp only [wfF, Bool.and_eq_true] at h
    obtain ⟨_, hn, hF⟩ := (wf_dict kvs).1 h.1
    simp only [lFields, trF_dict]
    cases hr : refOfFields kvs with
    | some u =>
      simp only
      split
      · simp only [frefsF, hr]; exact (List.Sublist.refl _).append (ihr h.2)
      · exact (List.nil_sublist _).append (ihr h.2)
    | none =>
      simp only
      split
      · simp only [frefsF, refOf_lFields_none v rv kvs hn hr]; exact (ihk hF).append (ihr h.2)
      · exact (List.nil_sublist _).append (ihr h.2)
  · intro k xs r ihx ihr h
    simp only [wfF, wf, Bool.and_eq_true] at h
    simp only [lFields, trF_list, frefsF]
    exact (ihx h.1).append (ihr h.2)
  · intro k x r hd hl ihr h
    simp only [wfF, Bool.and_eq_true] at h
    rw [lFields_leaf v rv hd hl, trF_leaf v rv hd hl, frefsF_leaf hd hl]
    exact ihr h.2
  · intro _; simp only [lList, trL_nil, frefsL, List.Sublist.refl]
  · intro kvs es ihk ihe h
    simp only [wfL, Bool.and_eq_true] at h
    obtain ⟨_, hn, hF⟩ := (wf_dict kvs).1 h.1
    simp only [lList, trL_dict]
    cases hr : refOfFields kvs with
    | some u =>
      simp only
      split
      · simp only [frefsL, hr]; exact (List.Sublist.refl _).append (ihe h.2)
      · exact ihe h.2
    | none =>
      simp only
      split
      · simp only [frefsL, refOf_lFields_none v rv kvs hn hr]; exact (ihk hF).append (ihe h.2)
      · exact ihe h.2
  · intro x es hd ihe h
    simp only [wfL, Bool.and_eq_true] at h
    rw [lList_other v rv hd, trL_other v rv hd, frefsL_other hd]
    exact ihe h.2

/-- following a list of references one after the other closes every one of them -/
theorem foldl_closed {v : Int} {rv : Str → Bool} {n : Nat} {fo : Str → Store → Store} (hfo : FoSpec v rv n fo) :
    (l : List Str) → ∀ σ, Inv v rv σ →
      (∀ u ∈ l, DC v rv (l.foldl (fun σ u => fo u σ) σ) n u) ∧ Pres v rv σ (l.foldl (fun σ u => fo u σ) σ)
  | [], σ, _ => ⟨nofun, Pres.refl v rv σ⟩
  | u :: r, σ, hI => by
    obtain ⟨hI1, hc, hp⟩ := hfo u σ hI
    obtain ⟨hcr, hpr⟩ := foldl_closed hfo r (fo u σ) hI1
    exact ⟨fun w hw => (List.mem_cons.1 hw).elim (fun e => e ▸ DC_mono hpr n u hc) (hcr w), hp.trans hpr⟩

theorem fFields_closed (v : Int) (rv : Str → Bool) (n : Nat) (fo : Str → Store → Store) (hfo : FoSpec v rv n fo) :
    (d : Fields) → wfF d = true → ∀ σ, Inv v rv σ →
      (∀ u ∈ frefsF (fFields v fo σ d).1, DC v rv (fFields v fo σ d).2 n u) ∧ Pres v rv σ (fFields v fo σ d).2 :=
  fun d hw σ hI => by
    rw [(walk_inv v rv fo fun u σ h => (hfo u σ h).1).1 d σ hI]
    obtain ⟨hc, hp⟩ := foldl_closed hfo (trF v rv d) σ hI
    exact ⟨fun u hu => hc u (((frefs_l_sub v rv).1 d hw).subset hu), hp⟩

theorem fList_closed (v : Int) (rv : Str → Bool) (n : Nat) (fo : Str → Store → Store) (hfo : FoSpec v rv n fo) :
    (xs : List J) → wfL xs = true → ∀ σ, Inv v rv σ →
      (∀ u ∈ frefsL (fList v fo σ xs).1, DC v rv (fList v fo σ xs).2 n u) ∧ Pres v rv σ (fList v fo σ xs).2 :=
  fun xs hw σ hI => by
    rw [(walk_inv v rv fo fun u σ h => (hfo u σ h).1).2 xs σ hI]
    obtain ⟨hc, hp⟩ := foldl_closed hfo (trL v rv xs) σ hI
    exact ⟨fun u hu => hc u (((frefs_l_sub v rv).2 xs hw).subset hu), hp⟩

theorem DC_setKey (v : Int) (rv : Str → Bool) (σ1 : Store) (u : Str) (doc' : Fields) (hfix : lFields v rv doc' = doc') :
    (m : Nat) → (∀ k, k < m → ∀ w ∈ frefsF doc', DC v rv σ1 k w) →
      ∀ x, (x = u ∨ DC v rv σ1 m x) → DC v rv (setKey u (.dict doc') σ1) m x
  | 0, _, _, _ => trivial
  | m + 1, hrefs, x, hx => by
    intro dx hl
    rw [lookup_setKey] at hl
    have ih := DC_setKey v rv σ1 u doc' hfix m fun k hk => hrefs k (by omega)
    by_cases hxu : x = u
    · simp only [hxu, if_true] at hl
      cases hl
      exact ⟨hfix, fun w hw => ih w (Or.inr (hrefs m (by omega) w hw))⟩
    · simp only [hxu, if_false] at hl
      obtain ⟨hf, hr⟩ := (hx.resolve_left hxu) dx hl
      exact ⟨hf, fun w hw => ih w (Or.inr (hr w hw))⟩

theorem follow_spec (v : Int) (rv : Str → Bool) (hv : inRange v) : (n : Nat) → FoSpec v rv n (follow v n)
  | 0 => fun u σ h => ⟨h, trivial, Pres.refl v rv σ⟩
  | n + 1 => by
    intro u σ hI
    refine ⟨follow_inv v rv hv (n + 1) u σ hI, ?_⟩
    by_cases hl : ∃ doc, lookup u σ = some (.dict doc)
    · obtain ⟨doc, hl⟩ := hl
      rw [follow_dict v n hl]
      have hwF := ((wf_dict doc).1 (hI.wfdoc u doc hl)).2.2
      obtain ⟨hcl, hp1⟩ := fFields_closed v rv n (follow v n) (follow_spec v rv hv n) doc hwF σ hI
      rw [(fFields_local v rv (follow v n) (follow_inv v rv hv n) doc σ hI).1] at hcl ⊢
      refine ⟨DC_setKey v rv _ u _ ((l_idem v rv hv).1 doc hwF) (n + 1)
        (fun k hk w hw => DC_le v rv _ k n (by omega) w (hcl w hw)) u (Or.inl rfl), ?_, ?_⟩
      · intro w dw hlw hfw
        rw [lookup_setKey]
        by_cases hwu : w = u
        · subst hwu
          rw [hl] at hlw
          cases hlw
          simp [hfw]
        · simp only [hwu, if_false]; exact hp1.keep w dw hlw hfw
      · intro w dw' hlw
        rw [lookup_setKey] at hlw
        by_cases hwu : w = u
        · subst hwu; exact ⟨doc, hl⟩
        · simp only [hwu, if_false] at hlw; exact hp1.old w dw' hlw
    · rw [follow_other v n fun doc hd => hl ⟨doc, hd⟩]
      exact ⟨fun doc hd => absurd ⟨doc, hd⟩ hl, Pres.refl v rv σ⟩

theorem walk_idem (v : Int) (rv : Str → Bool) (hv : inRange v) (n : Nat) {σ : Store} (hI : Inv v rv σ) {d : Fields}
    (hw : wfF d = true) :
    fFields v (follow v n) (fFields v (follow v n) σ d).2 (fFields v (follow v n) σ d).1 =
      fFields v (follow v n) σ d := by
  obtain ⟨e1, hI1⟩ := fFields_local v rv (follow v n) (follow_inv v rv hv n) d σ hI
  obtain ⟨hcl, _⟩ := fFields_closed v rv n (follow v n) (follow_spec v rv hv n) d hw σ hI
  exact fFields_fixed v rv (follow v n) _ hI1 _ (by rw [e1]; exact (l_idem v rv hv).1 d hw)
    fun w hw' => follow_fixed v rv _ hI1 n w (hcl w hw')

end Mappy.Versioning
