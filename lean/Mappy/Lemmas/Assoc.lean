/- ASCII letter case (`lower`, `upper`), and the insertion-ordered dict operations `lookup` / `setKey` / `delKey` / `keys`
   of Base.lean: what each does to what the others see. -/
import Mappy.Lemmas.Res

namespace Mappy

theorem ofNat_toNat (n : Nat) (h : n < 55296) : (Char.ofNat n).toNat = n := by
  have hv : n.isValidChar := Or.inl h
  simp [Char.ofNat, hv, Char.toNat, Char.ofNatAux]

theorem toNat_lowerC (c : Char) :
    (lowerC c).toNat = if 65 ≤ c.toNat ∧ c.toNat ≤ 90 then c.toNat + 32 else c.toNat := by
  unfold lowerC
  split
  · exact ofNat_toNat _ (by omega)
  · rfl

theorem toNat_upperC (c : Char) :
    (upperC c).toNat = if 97 ≤ c.toNat ∧ c.toNat ≤ 122 then c.toNat - 32 else c.toNat := by
  unfold upperC
  split
  · exact ofNat_toNat _ (by omega)
  · rfl

theorem lowerC_idem (c : Char) : lowerC (lowerC c) = lowerC c := by
  rw [← Char.toNat_inj, toNat_lowerC, toNat_lowerC]
  repeat' split
  all_goals omega

theorem upperC_idem (c : Char) : upperC (upperC c) = upperC c := by
  rw [← Char.toNat_inj, toNat_upperC, toNat_upperC]
  repeat' split
  all_goals omega

theorem lowerC_upperC (c : Char) : lowerC (upperC c) = lowerC c := by
  rw [← Char.toNat_inj, toNat_lowerC, toNat_lowerC, toNat_upperC]
  repeat' split
  all_goals omega

theorem upperC_lowerC (c : Char) : upperC (lowerC c) = upperC c := by
  rw [← Char.toNat_inj, toNat_upperC, toNat_upperC, toNat_lowerC]
  repeat' split
  all_goals omega

/-- `'i'`: the suffix of case-insensitive strings -/
theorem upperC_ne_i (c : Char) : upperC c ≠ 'i' := fun e => by
  have := congrArg Char.toNat e
  rw [toNat_upperC, show ('i' : Char).toNat = 105 from rfl] at this
  split at this <;> omega

theorem lowerC_us (c : Char) (h : lowerC c = '_') : c = '_' := by
  have := congrArg Char.toNat h
  rw [toNat_lowerC, show ('_' : Char).toNat = 95 from rfl] at this
  split at this
  · omega
  · exact Char.toNat_inj.1 this

theorem map_map_of_comp {f g h : Char → Char} (e : ∀ c, f (g c) = h c) (s : Str) : (s.map g).map f = s.map h := by
  rw [List.map_map]
  exact List.map_congr_left fun c _ => e c

@[simp] theorem lower_idem (s : Str) : lower (lower s) = lower s := map_map_of_comp lowerC_idem s
theorem upper_idem (s : Str) : upper (upper s) = upper s := map_map_of_comp upperC_idem s
theorem lower_upper (s : Str) : lower (upper s) = lower s := map_map_of_comp lowerC_upperC s
theorem upper_lower (s : Str) : upper (lower s) = upper s := map_map_of_comp upperC_lowerC s

@[simp] theorem keys_nil : keys ([] : Fields) = [] := rfl
@[simp] theorem keys_cons (k : Str) (v : J) (r : Fields) : keys ((k, v) :: r) = k :: keys r := rfl
@[simp] theorem keys_append (a b : Fields) : keys (a ++ b) = keys a ++ keys b := by simp [keys]

theorem mem_keys_of_mem {p : Str × J} {d : Fields} (h : p ∈ d) : p.1 ∈ keys d :=
  List.mem_map_of_mem (f := Prod.fst) h

theorem Fields.ind {motive : Fields → Prop} (nil : motive [])
    (cons : ∀ k v r, motive r → motive ((k, v) :: r)) : ∀ d, motive d
  | [] => nil
  | (k, v) :: r => cons k v r (Fields.ind nil cons r)

theorem lookup_none_iff (k : Str) (d : Fields) : lookup k d = none ↔ k ∉ keys d := by
  induction d using Fields.ind with
  | nil => simp [lookup]
  | cons k' v d ih => by_cases e : k' = k <;> simp [lookup, e, ih, Ne.symm]

theorem hasKey_iff (k : Str) (d : Fields) : hasKey k d = true ↔ k ∈ keys d := by
  rw [hasKey, Option.isSome_iff_ne_none, Ne, lookup_none_iff, Classical.not_not]

theorem hasKey_false_iff (k : Str) (d : Fields) : hasKey k d = false ↔ k ∉ keys d := by
  rw [← hasKey_iff]; simp

theorem mem_of_lookup : (d : Fields) → ∀ k v, lookup k d = some v → (k, v) ∈ d := by
  intro d k v h
  induction d using Fields.ind with
  | nil => simp [lookup] at h
  | cons k' v' d ih =>
    by_cases e : k' = k
    · simp [lookup, e] at h
      simp [e, h]
    · simp only [lookup, e, if_false] at h
      exact List.mem_cons_of_mem _ (ih h)

theorem lookup_of_mem_nodup : (d : Fields) → (keys d).Nodup → ∀ k v, (k, v) ∈ d → lookup k d = some v := by
  intro d hn k v h
  induction d using Fields.ind with
  | nil => simp at h
  | cons k' v' d ih =>
    simp only [keys_cons, List.nodup_cons] at hn
    rcases List.mem_cons.1 h with e | h
    · cases e; simp [lookup]
    · have : k' ≠ k := fun e => hn.1 (e ▸ mem_keys_of_mem h)
      simp [lookup, this, ih hn.2 h]

theorem lookup_append (k : Str) : (a b : Fields) → lookup k (a ++ b) = (lookup k a).or (lookup k b) := by
  intro a b
  induction a using Fields.ind with
  | nil => simp [lookup]
  | cons k' v a ih => by_cases h : k' = k <;> simp [lookup, h, ih]

theorem lookup_snoc_fresh (k : Str) (v : J) (d : Fields) (h : k ∉ keys d) : lookup k (d ++ [(k, v)]) = some v := by
  rw [lookup_append, (lookup_none_iff k d).2 h]; simp [lookup]

theorem lookup_filter (k : Str) (p : Str × J → Bool) (hp : ∀ v, p (k, v) = true) :
    (f : Fields) → lookup k (f.filter p) = lookup k f := by
  intro f
  induction f using Fields.ind with
  | nil => rfl
  | cons a v r ih =>
    by_cases e : a = k
    · subst e; simp [hp, lookup]
    · by_cases h : p (a, v) = true <;> simp [h, lookup, e, ih]

theorem lookup_filter_neg (k : Str) (p : Str × J → Bool) (hp : ∀ v, p (k, v) = false) (f : Fields) :
    lookup k (f.filter p) = none := by
  rw [lookup_none_iff]
  intro hm
  obtain ⟨⟨a, v⟩, hkv, rfl⟩ := List.mem_map.1 hm
  simp [hp] at hkv

theorem lookup_map_val (k : Str) (g : Str → J → J) (hg : ∀ v, g k v = v) :
    (f : Fields) → lookup k (f.map fun kv => (kv.1, g kv.1 kv.2)) = lookup k f := by
  intro f
  induction f using Fields.ind with
  | nil => rfl
  | cons a v r ih => by_cases e : a = k <;> simp [lookup, e, hg, ih]

theorem mem_of_all {P : J → Bool} {PF : Fields → Bool} (hcons : ∀ k x r, PF ((k, x) :: r) = (P x && PF r))
    {d : Fields} (h : PF d = true) {k : Str} {x : J} (hm : (k, x) ∈ d) : P x = true := by
  induction d using Fields.ind with
  | nil => cases hm
  | cons k' y r ih =>
    rw [hcons, Bool.and_eq_true] at h
    rcases List.mem_cons.1 hm with e | hm
    · cases e; exact h.1
    · exact ih h.2 hm

theorem setKey_cons_ne (k k0 : Str) (v v0 : J) (r : Fields) (h : k0 ≠ k) :
    setKey k v ((k0, v0) :: r) = (k0, v0) :: setKey k v r := by simp [setKey, h]

theorem setKey_append_of_not_mem (k : Str) (v : J) (a b : Fields) (h : k ∉ keys a) :
    setKey k v (a ++ b) = a ++ setKey k v b := by
  induction a using Fields.ind with
  | nil => rfl
  | cons k' v' a ih =>
    simp only [keys_cons, List.mem_cons, not_or] at h
    rw [List.cons_append, setKey_cons_ne _ _ _ _ _ (Ne.symm h.1), ih h.2, List.cons_append]

theorem setKey_of_not_mem (k : Str) (v : J) (d : Fields) (h : k ∉ keys d) :
    setKey k v d = d ++ [(k, v)] := by
  simpa [setKey] using setKey_append_of_not_mem k v d [] h

theorem setKey_snoc_fresh (k : Str) (v w : J) (d : Fields) (h : k ∉ keys d) :
    setKey k w (d ++ [(k, v)]) = d ++ [(k, w)] := by
  simp [setKey_append_of_not_mem k w d _ h, setKey]

theorem fresh_snoc (k : Str) (v : J) (acc d : Fields) (hfresh : ∀ kv ∈ (k, v) :: d, kv.1 ∉ keys acc)
    (hnd : (keys ((k, v) :: d)).Nodup) : ∀ kv ∈ d, kv.1 ∉ keys (acc ++ [(k, v)]) := by
  intro kv hkv
  simp only [keys_cons, List.nodup_cons] at hnd
  simp only [keys_append, keys_cons, keys_nil, List.mem_append, List.mem_singleton, not_or]
  exact ⟨hfresh kv (by simp [hkv]), fun e => hnd.1 (by rw [← e]; exact mem_keys_of_mem hkv)⟩

theorem foldl_setKey_lower : (pairs : Fields) → (∀ kv ∈ pairs, lower kv.1 = kv.1) → (keys pairs).Nodup →
    ∀ (acc : Fields), (∀ kv ∈ pairs, kv.1 ∉ keys acc) →
    pairs.foldl (fun d kv => setKey (lower kv.1) kv.2 d) acc = acc ++ pairs
  | [], _, _, acc, _ => by simp
  | (k, v) :: r, hl, hnd, acc, hfresh => by
    simp only [List.foldl_cons, hl (k, v) (by simp), setKey_of_not_mem k v acc (hfresh (k, v) (by simp))]
    rw [foldl_setKey_lower r (fun x hx => hl x (by simp [hx])) (List.nodup_cons.mp hnd).2 _ (fresh_snoc k v acc r hfresh hnd)]
    simp

theorem setKey_same (k : Str) (x : J) : (d : Fields) → lookup k d = some x → setKey k x d = d := by
  intro d h
  induction d using Fields.ind with
  | nil => simp [lookup] at h
  | cons k' y d ih =>
    by_cases e : k' = k
    · simp [lookup, e] at h
      simp [setKey, e, h]
    · simp only [lookup, e, if_false] at h
      rw [setKey_cons_ne _ _ _ _ _ e, ih h]

theorem lookup_setKey (k k' : Str) (v : J) (d : Fields) :
    lookup k' (setKey k v d) = if k' = k then some v else lookup k' d := by
  induction d using Fields.ind with
  | nil => simp [setKey, lookup, eq_comm]
  | cons k0 v0 d ih =>
    by_cases h : k0 = k
    · subst h; by_cases h' : k0 = k' <;> simp [setKey, lookup, h', Ne.symm]
    · by_cases h' : k0 = k'
      · subst h'; simp [setKey, lookup, h]
      · simp [setKey, lookup, h, h', ih]

theorem keys_setKey (k : Str) (v : J) (d : Fields) :
    keys (setKey k v d) = if k ∈ keys d then keys d else keys d ++ [k] := by
  induction d using Fields.ind with
  | nil => rfl
  | cons k' v' d ih =>
    by_cases e : k' = k
    · simp [setKey, e]
    · simp only [setKey, e, if_false, keys_cons, ih, List.mem_cons, Ne.symm e, false_or]
      split <;> rfl

theorem mem_keys_setKey (k k' : Str) (v : J) (d : Fields) :
    k' ∈ keys (setKey k v d) ↔ k' = k ∨ k' ∈ keys d := by
  rw [keys_setKey]; split
  · rename_i h; exact ⟨Or.inr, fun h' => h'.elim (· ▸ h) id⟩
  · simp [or_comm]

theorem nodup_setKey (k : Str) (v : J) (d : Fields) (h : (keys d).Nodup) : (keys (setKey k v d)).Nodup := by
  rw [keys_setKey]; split
  · exact h
  · rename_i hk
    exact List.nodup_append.2 ⟨h, by simp, fun a ha b hb e => hk (List.eq_of_mem_singleton hb ▸ e ▸ ha)⟩

theorem mem_setKey (k : Str) (v : J) (x : Str × J) (d : Fields) (h : x ∈ setKey k v d) : x = (k, v) ∨ x ∈ d := by
  induction d using Fields.ind with
  | nil => simpa [setKey] using h
  | cons a b r ih =>
    by_cases e : a = k
    · subst e
      simp only [setKey, if_true, List.mem_cons] at h ⊢
      exact h.imp id Or.inr
    · simp only [setKey, e, if_false, List.mem_cons] at h ⊢
      exact h.elim (fun h => Or.inr (Or.inl h)) (fun h => (ih h).imp id Or.inr)

theorem setKey_comm_of_mem (a b : Str) (x y : J) (d : Fields) (hab : a ≠ b) (ha : a ∈ keys d) :
    setKey a x (setKey b y d) = setKey b y (setKey a x d) := by
  induction d using Fields.ind with
  | nil => simp at ha
  | cons k0 v0 r ih =>
    by_cases h1 : k0 = a
    · subst h1; simp [setKey, hab]
    · by_cases h2 : k0 = b
      · subst h2; simp [setKey, h1]
      · simp [setKey, h1, h2, ih (by simpa [Ne.symm h1] using ha)]

theorem setKey_setKey_same (a : Str) (x y : J) (d : Fields) :
    setKey a x (setKey a y d) = setKey a x d := by
  induction d using Fields.ind with
  | nil => simp [setKey]
  | cons k0 v0 r ih => by_cases h1 : k0 = a <;> simp [setKey, h1, ih]

theorem head?_keys_setKey (k : Str) (v : J) (d : Fields) (hd : d ≠ []) : (keys (setKey k v d)).head? = (keys d).head? := by
  obtain ⟨⟨a, b⟩, r, rfl⟩ := List.exists_cons_of_ne_nil hd
  simp only [setKey]
  split <;> rfl

theorem keys_delKey (k : Str) (d : Fields) : keys (delKey k d) = (keys d).erase k := by
  induction d using Fields.ind with
  | nil => rfl
  | cons k' v d ih => by_cases e : k' = k <;> simp [delKey, e, ih]

theorem keys_delKey_sub (k k' : Str) (d : Fields) (h : k' ∈ keys (delKey k d)) : k' ∈ keys d :=
  List.mem_of_mem_erase (keys_delKey k d ▸ h)

theorem nodup_delKey (k : Str) (d : Fields) (h : (keys d).Nodup) : (keys (delKey k d)).Nodup :=
  keys_delKey k d ▸ h.erase k

theorem not_mem_keys_delKey (k : Str) (d : Fields) (h : (keys d).Nodup) : k ∉ keys (delKey k d) :=
  keys_delKey k d ▸ h.not_mem_erase

theorem lookup_delKey_ne (k k' : Str) (d : Fields) (hne : k' ≠ k) :
    lookup k' (delKey k d) = lookup k' d := by
  induction d using Fields.ind with
  | nil => rfl
  | cons k0 v0 d ih =>
    by_cases e : k0 = k
    · subst e; simp [delKey, lookup, Ne.symm hne]
    · simp [delKey, lookup, e, ih]

end Mappy
