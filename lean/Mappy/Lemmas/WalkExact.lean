/-
  What the version walk does to the store, for evaluation.  The walk of Model/Versioning.lean returns the local filter of the
  dict it is given and follows the references of its trace one after the other (`walk_inv`, Lemmas/VersionStore.lean); the
  store after it is the folder with the local filter in place of exactly the documents it has followed: `walk_exact`.  The
  set of those documents is computed over the traces alone (`followS`, `followAllS`): a document followed before is closed at
  every depth, and `follow` leaves the store alone there (`follow_fixed`).  `getVersionedS` gives up, and the walk itself
  runs, when the budget runs out or a reference does not name an object.
  The definitions stand here and not in the model: they mirror nothing in mappyfile, they serve one proof — the
  evaluation of `C19_create_valid` (Props/C19Create.lean rewrites by `getVersionedS_eq`).
-/
import Mappy.Lemmas.VersionStore

namespace Mappy.Versioning

/-- following one document: the documents followed so far, and after; `none` to give up -/
abbrev FoS := Str → List Str → Option (List Str)

def followAllS (fo : FoS) : List Str → List Str → Option (List Str)
  | [], m => some m
  | u :: r, m => (fo u m).bind (followAllS fo r)

def followS (v : Int) (rv : Str → Bool) (files : Store) : Nat → FoS
  | 0, _, _ => none
  | n + 1, u, m =>
    if m.contains u then some m else
    match lookup u files with
    | some (.dict doc) => (followAllS (followS v rv files n) (trF v rv doc) m).map (u :: ·)
    | _ => none

/-- the folder with the local filter in place of every document of `m` -/
def overlay (v : Int) (rv : Str → Bool) (m : List Str) : Store → Store
  | [] => []
  | (u, x) :: r =>
    (u, match x with | .dict doc => if m.contains u then .dict (lFields v rv doc) else x | _ => x) :: overlay v rv m r

/-- the documents the walk from `props` follows; `none` when the budget runs out or a reference names no object -/
def runS (fuel : Nat) (v : Int) (σ : Store) (props : Fields) : Option (List Str) :=
  followAllS (followS v (refValid v σ) σ fuel) (trF v (refValid v σ) props) []

/-- `prune` through the sets of followed documents, for the versions the range test is meant for (`inRange`); as it is for the others -/
def pruneS (fuel : Nat) (ver : Option Ver) (L : Loaded) : Res Loaded :=
  match ver with
  | none => .ok L
  | some v =>
    if v.milli = 0 then .ok L else
    if 0 ≤ v.milli ∧ v.milli ≤ 1000000 then
      match L.root with
      | .dict kvs =>
        match lookup propsKey kvs with
        | some (.dict props) =>
          match runS fuel v.milli L.store props with
          | some m =>
            .ok ⟨.dict (setKey propsKey (.dict (lFields v.milli (refValid v.milli L.store) props)) kvs),
              overlay v.milli (refValid v.milli L.store) m L.store⟩
          | none => prune fuel ver L
        | some _ => .error .attributeError
        | none => .error .keyError
      | _ => .error .typeError
    else prune fuel ver L

/-- `get_versioned_schema` on a fresh Validator, through `pruneS` -/
def getVersionedS (fuel : Nat) (files : Store) (name : Str) (ver : Option Ver) : Res (Loaded × Cache) :=
  match load files name with
  | .error e => .error e
  | .ok L =>
    match pruneS fuel ver L with
    | .ok L' => .ok (L', cset (cacheKey name ver) L' (cset (cacheKey name ver) L []))
    | .error e => .error e

theorem overlay_nil (v : Int) (rv : Str → Bool) : (σ : Store) → overlay v rv [] σ = σ
  | [] => rfl
  | (u, x) :: r => by
    simp only [overlay, overlay_nil v rv r, List.contains_nil]
    cases x <;> rfl

theorem lookup_overlay (v : Int) (rv : Str → Bool) (m : List Str) (u : Str) : (σ : Store) →
    lookup u (overlay v rv m σ) =
      (lookup u σ).map fun x => match x with | .dict doc => if m.contains u then .dict (lFields v rv doc) else x | _ => x
  | [] => rfl
  | (k, x) :: r => by
    simp only [overlay, lookup]
    by_cases hk : k = u
    · subst hk; simp only [if_true, Option.map_some]
    · simp only [hk, if_false, lookup_overlay v rv m u r]

theorem lookup_overlay_dict {v : Int} {rv : Str → Bool} {m : List Str} {u : Str} {σ : Store} {doc' : Fields}
    (h : lookup u (overlay v rv m σ) = some (.dict doc')) :
    ∃ doc, lookup u σ = some (.dict doc) ∧ doc' = if m.contains u then lFields v rv doc else doc := by
  rw [lookup_overlay] at h
  obtain ⟨x, hl, hx⟩ := Option.map_eq_some_iff.1 h
  cases x with
  | dict doc =>
    refine ⟨doc, hl, ?_⟩
    simp only at hx
    split at hx <;> cases hx
    · rw [if_pos ‹_›]
    · rw [if_neg ‹_›]
  | _ => cases hx

theorem overlay_cons_of_not_mem (v : Int) (rv : Str → Bool) (m : List Str) (u : Str) : (σ : Store) → u ∉ keys σ →
    overlay v rv (u :: m) σ = overlay v rv m σ
  | [], _ => rfl
  | (k, x) :: r, h => by
    rw [keys_cons, List.mem_cons, not_or] at h
    have hk : (k == u) = false := by simpa using Ne.symm h.1
    simp only [overlay, List.contains_cons, hk, Bool.false_or, overlay_cons_of_not_mem v rv m u r h.2]

/-- what `follow` writes: keys are unique, so one more document of the set is one `setKey` -/
theorem setKey_overlay (v : Int) (rv : Str → Bool) (m : List Str) {u : Str} {doc : Fields} : (σ : Store) → (keys σ).Nodup →
    lookup u σ = some (.dict doc) → setKey u (.dict (lFields v rv doc)) (overlay v rv m σ) = overlay v rv (u :: m) σ
  | [], _, h => by cases h
  | (k, x) :: r, hn, h => by
    rw [keys_cons, List.nodup_cons] at hn
    by_cases hk : k = u
    · subst hk
      simp only [lookup, if_true, Option.some.injEq] at h
      subst h
      simp only [overlay, setKey, if_true, List.contains_cons, BEq.rfl, Bool.true_or, overlay_cons_of_not_mem v rv m k r hn.1]
    · simp only [lookup, hk, if_false] at h
      have hk' : (k == u) = false := by simpa using hk
      simp only [overlay, setKey_cons_ne _ _ _ _ _ hk, List.contains_cons, hk', Bool.false_or, setKey_overlay v rv m r hn.2 h]

theorem inv_overlay (v : Int) (hv : inRange v) (files : Store) (hwf : ∀ f ∈ files, wf f.2 = true) (m : List Str) :
    Inv v (refValid v files) (overlay v (refValid v files) m files) := by
  constructor
  · intro u
    simp only [refValid, lookup_overlay]
    cases hl : lookup u files with
    | none => rfl
    | some x =>
      cases x with
      | dict doc =>
        obtain ⟨hok, hnd, _⟩ := (wf_dict doc).1 (hwf _ (mem_of_lookup files u _ hl))
        by_cases hc : m.contains u = true
        · simp only [Option.map_some, hc, if_true, isValid_lFields v _ hv doc hok hnd]
        · simp only [Option.map_some, hc, Bool.false_eq_true, if_false]
      | _ => rfl
  · intro u doc' hl'
    obtain ⟨doc, hl, rfl⟩ := lookup_overlay_dict hl'
    have hw := hwf _ (mem_of_lookup files u _ hl)
    split
    · exact wf_dict_lFields v _ hw ((l_wf v _).1 doc ((wf_dict doc).1 hw).2.2)
    · exact hw

/-- the trace of every document of `m` stays within `m` -/
def RefClosed (v : Int) (rv : Str → Bool) (files : Store) (m : List Str) : Prop :=
  ∀ u ∈ m, ∀ doc, lookup u files = some (.dict doc) → ∀ w ∈ trF v rv doc, w ∈ m

theorem closed_overlay (v : Int) (hv : inRange v) (rv : Str → Bool) (files : Store) (hwf : ∀ f ∈ files, wf f.2 = true)
    {m : List Str} (hm : RefClosed v rv files m) : (k : Nat) → ∀ u ∈ m, DC v rv (overlay v rv m files) k u
  | 0, _, _ => trivial
  | k + 1, u, hu => by
    intro doc' hl'
    obtain ⟨doc, hl, rfl⟩ := lookup_overlay_dict hl'
    have hwF := ((wf_dict doc).1 (hwf _ (mem_of_lookup files u _ hl))).2.2
    simp only [List.contains_iff_mem.2 hu, if_true]
    exact ⟨(l_idem v rv hv).1 doc hwF, fun w hw =>
      closed_overlay v hv rv files hwf hm k w (hm u hu doc hl w (((frefs_l_sub v rv).1 doc hwF).subset hw))⟩

/-- from the closed set `m`, following the references of `l` ends in `m'` and has left the store `σ`: it is the overlay of
`m'`, which is closed again and holds `m` and `l` -/
def Sim (v : Int) (rv : Str → Bool) (files : Store) (m m' : List Str) (σ : Store) (l : List Str) : Prop :=
  σ = overlay v rv m' files ∧ RefClosed v rv files m' ∧ m ⊆ m' ∧ ∀ w ∈ l, w ∈ m'

def StepOK (v : Int) (rv : Str → Bool) (files : Store) (fo' : FoS) (fo : Str → Store → Store) : Prop :=
  ∀ u m m', RefClosed v rv files m → fo' u m = some m' → Sim v rv files m m' (fo u (overlay v rv m files)) [u]

theorem followAllS_ok {v : Int} {rv : Str → Bool} {files : Store} {fo' : FoS} {fo : Str → Store → Store}
    (H : StepOK v rv files fo' fo) : (l : List Str) → ∀ m m', RefClosed v rv files m → followAllS fo' l m = some m' →
      Sim v rv files m m' (l.foldl (fun σ u => fo u σ) (overlay v rv m files)) l
  | [], m, m', hm, h => by cases h; exact ⟨rfl, hm, fun _ h => h, nofun⟩
  | u :: r, m, m', hm, h => by
    obtain ⟨m1, h1, h2⟩ := Option.bind_eq_some_iff.1 h
    obtain ⟨e1, c1, s1, u1⟩ := H u m m1 hm h1
    obtain ⟨e2, c2, s2, u2⟩ := followAllS_ok H r m1 m' c1 h2
    exact ⟨by rw [List.foldl_cons, e1, e2], c2, fun _ h => s2 (s1 h),
      fun w hw => (List.mem_cons.1 hw).elim (fun e => e ▸ s2 (u1 u (List.mem_singleton.2 rfl))) (u2 w)⟩

theorem followS_ok (v : Int) (hv : inRange v) (files : Store) (hwf : ∀ f ∈ files, wf f.2 = true) (hnd : (keys files).Nodup) :
    (n : Nat) → StepOK v (refValid v files) files (followS v (refValid v files) files n) (follow v n)
  | 0 => fun _ _ _ _ h => nomatch h
  | n + 1 => by
    intro u m m' hm h
    have hI := inv_overlay v hv files hwf
    simp only [followS] at h
    split at h
    · -- followed before: closed at every depth, `follow` leaves the store alone
      rename_i hu
      cases h
      have hmem : u ∈ m := List.contains_iff_mem.1 hu
      exact ⟨follow_fixed v _ _ (hI m) (n + 1) u (closed_overlay v hv _ files hwf hm (n + 1) u hmem), hm, fun _ h => h,
        fun w hw => List.mem_singleton.1 hw ▸ hmem⟩
    · rename_i hu
      split at h
      · rename_i doc hl
        obtain ⟨m1, h1, rfl⟩ := Option.map_eq_some_iff.1 h
        obtain ⟨e, hc, hs, hr⟩ := followAllS_ok (followS_ok v hv files hwf hnd n) _ m m1 hm h1
        have hlo : lookup u (overlay v (refValid v files) m files) = some (.dict doc) := by
          rw [lookup_overlay, hl]; simp only [Option.map_some, hu, Bool.false_eq_true, if_false]
        refine ⟨?_, ?_, fun _ h => List.mem_cons_of_mem _ (hs h), fun w hw => List.mem_singleton.1 hw ▸ List.mem_cons_self ..⟩
        · rw [follow_dict v n hlo, (walk_inv v _ _ (follow_inv v _ hv n)).1 doc _ (hI m), e]
          exact setKey_overlay v _ m1 files hnd hl
        · intro w hw dw hlw x hx
          rcases List.mem_cons.1 hw with rfl | hw
          · rw [hl] at hlw
            cases hlw
            exact List.mem_cons_of_mem _ (hr x hx)
          · exact List.mem_cons_of_mem _ (hc w hw dw hlw x hx)
      · cases h

/-- **what the walk leaves behind**: the local filter of the dict it was given, and the folder with the local filter in
place of every document it has followed — nothing else is touched -/
theorem walk_exact (v : Int) (hv : inRange v) (files : Store) (hwf : ∀ f ∈ files, wf f.2 = true) (hnd : (keys files).Nodup)
    (n : Nat) {d : Fields} {m : List Str} (h : runS n v files d = some m) :
    fFields v (follow v n) files d = (lFields v (refValid v files) d, overlay v (refValid v files) m files) := by
  have hs := followAllS_ok (followS_ok v hv files hwf hnd n) _ [] m nofun h
  rw [overlay_nil] at hs
  rw [(walk_inv v _ _ (follow_inv v _ hv n)).1 d files (inv_files v files hwf), hs.1]

theorem pruneS_eq (fuel : Nat) (ver : Option Ver) (L : Loaded) (hwf : ∀ f ∈ L.store, wf f.2 = true)
    (hnd : (keys L.store).Nodup) : pruneS fuel ver L = prune fuel ver L := by
  fun_cases pruneS fuel ver L with
  | case3 v hz hv kvs hr props hp m hm =>
    simp only [prune, hz, if_false, hr, hp, walk_exact v.milli hv L.store hwf hnd fuel hm]
  | case5 v hz _ kvs hr val hval hp =>
    cases val with
    | dict props => exact absurd rfl (hval props)
    | _ => simp only [prune, hz, if_false, hr, hp]
  | case7 v hz _ hr =>
    cases h : L.root with
    | dict kvs => exact absurd h (hr kvs)
    | _ => simp only [prune, hz, if_false, h]
  | _ => simp only [prune, *, if_true, if_false]

theorem getVersionedS_eq (fuel : Nat) (files : Store) (hwf : ∀ f ∈ files, wf f.2 = true) (hnd : (keys files).Nodup)
    (name : Str) (ver : Option Ver) : getVersioned fuel files [] name ver = getVersionedS fuel files name ver := by
  simp only [getVersioned, getExpanded, cget, getVersionedS]
  cases hl : load files name with
  | error e => rfl
  | ok L =>
    obtain ⟨_, rfl⟩ := load_ok hl
    simp only [pruneS_eq fuel ver L hwf hnd]
    cases prune fuel ver L with
    | ok _ => rfl
    | error _ => rfl

end Mappy.Versioning
