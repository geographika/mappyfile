/- The layout checker (a stack discipline over structured lines) and its composition lemmas. -/
import Mappy.Model.Printer

namespace Mappy.Printer

/-- Independent layout checker: comment lines aside, every opener and keyword line sits at the depth
given by the number of open blocks, every END closes the innermost open block at that block's
indentation and (with `end_comment`) carries `# ` + the block's name. Returns the stack of open blocks. -/
def check (o : Opts) : List (Nat × Str) → List Line → Option (List (Nat × Str))
  | st, [] => some st
  | st, l :: r =>
    match l.kind with
    | .comment => check o st r
    | .opener => if l.lvl = st.length then check o ((l.lvl, l.key) :: st) r else none
    | .attr => if l.lvl = st.length then check o st r else none
    | .ender =>
      match st with
      | (lv, name) :: st' =>
        if l.lvl = lv ∧ l.key = s%"END" ∧ l.val = [] ∧ l.cmt = (if o.endComment then s%" # " ++ name else []) then check o st' r
        else none
      | [] => none

def Bal (o : Opts) (n : Nat) (ls : List Line) : Prop :=
  ∀ st rest, st.length = n → check o st (ls ++ rest) = check o st rest

theorem Bal.nil (o : Opts) (n : Nat) : Bal o n [] := fun _ _ _ => rfl

theorem Bal.append {o : Opts} {n : Nat} {a b : List Line} (ha : Bal o n a) (hb : Bal o n b) : Bal o n (a ++ b) := by
  intro st rest h
  rw [List.append_assoc, ha st _ h, hb st _ h]

theorem Bal.attr (o : Opts) (n : Nat) (l : Line) (hk : l.kind = .attr) (hl : l.lvl = n) : Bal o n [l] := by
  intro st rest h
  simp [check, hk, hl, h]

theorem Bal.comment (o : Opts) (n : Nat) (l : Line) (hk : l.kind = .comment) : Bal o n [l] := by
  intro st rest h
  simp [check, hk]

theorem Bal.comments (o : Opts) (n : Nat) (ls : List Line) (hk : ∀ l ∈ ls, l.kind = .comment) : Bal o n ls := by
  induction ls with
  | nil => exact Bal.nil o n
  | cons l r ih =>
    exact Bal.append (a := [l]) (Bal.comment o n l (hk l (by simp))) (ih (fun x hx => hk x (by simp [hx])))

theorem Bal.block (o : Opts) (n : Nat) (name : Str) (body : List Line) (hb : Bal o (n + 1) body) :
    Bal o n ([⟨.opener, n, name, 0, [], []⟩] ++ body ++
      [⟨.ender, n, s%"END", 0, [], if o.endComment then s%" # " ++ name else []⟩]) := by
  intro st rest h
  simp only [List.append_assoc, List.cons_append, List.nil_append, check, h, if_true]
  rw [hb ((n, name) :: st) _ (by simp [h])]
  simp [check]

end Mappy.Printer
