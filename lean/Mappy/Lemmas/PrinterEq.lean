/- Equations of the printer model: the case analyses of `other` and `wrapObj` for an arbitrary relation between two calls
(`other_rel`, `wrapObj_rel`), the loop of `_format` one entry at a time (`entry`, `fmtItems_cons`) and what an entry is in each
regime, the `separate_complex_types` pre-pass as a map over entries (`sepVal`), and root objects (`rootLines`, `isFmtRoot`,
`rootsOf`). -/
import Mappy.Model.Printer
import Mappy.Lemmas.JInd
import Mappy.Lemmas.Assoc

namespace Mappy.Printer

theorem cat_nil (x : Res (List Line)) : cat (.ok []) x = x := by
  cases x <;> rfl

theorem attrLine_ok {o : Opts} {T : Table} {ty attr : Str} {v : J} {level al : Nat} {c : Fields} {l : Line}
    (h : attrLine o T ty attr v level al c = .ok l) :
    ∃ p t cm, cellOf T ty attr = some p ∧ formatValue o.quote attr p v = .ok t ∧ attrComment c attr = .ok cm ∧
      l = ⟨.attr, level + 1, upper attr, padOf al (upper attr), t, cm⟩ := by
  unfold attrLine at h
  split at h
  · cases h
  · cases ht : formatValue o.quote attr _ v <;> rw [ht] at h
    · cases h
    · cases hc : attrComment c attr <;> rw [hc] at h
      · cases h
      · exact ⟨_, _, _, ‹_›, ht, rfl, (Except.ok.inj h).symm⟩

theorem fmt_atom (o : Opts) (T : Table) (level : Nat) {j : J} (h : ∀ f, j ≠ .dict f) :
    fmt o T level j = .error .attributeError := by
  cases j <;> first | rfl | exact absurd rfl (h _)

/-- The case analysis of `other`, once: two calls on the same keyword and value take the same branch, so they are
related as soon as the eight branches are, pairwise.  (A property of a single call is the case `R a _ := P a`.) -/
theorem other_rel {R : Res (List Line) → Res (List Line) → Prop} {o o' : Opts} {T : Table} {level : Nat}
    {ty : Option Str} {c : Fields} {al al' : Nat} {attr : Str} {v : J} {child child' : Unit → Res (List Line)}
    (err : ∀ e, R (.error e) (.error e))
    (pattern : R (pairBlock o attr level v) (pairBlock o' attr level v))
    (kv : R (keyDict o attr level v) (keyDict o' attr level v))
    (proj : ∀ cm, R (projectionLines o attr level cm v) (projectionLines o' attr level cm v))
    (rep : R (repeatedLines o attr level al v) (repeatedLines o' attr level al' v))
    (points : R (pointsBlocks o attr level v) (pointsBlocks o' attr level v))
    (config : R (configLines o level v) (configLines o' level v))
    (comp : isComposite v = true → R (child ()) (child' ()))
    (plain : R (simple o T level ty c al attr v) (simple o' T level ty c al' attr v)) :
    R (other o T level ty c al attr v child) (other o' T level ty c al' attr v child') := by
  unfold other
  refine ite_rel (fun _ => pattern) fun _ => ite_rel (fun _ => kv) fun _ => ite_rel (fun _ => ?_) fun _ =>
    ite_rel (fun _ => rep) fun _ => ite_rel (fun _ => points) fun _ => ite_rel (fun _ => config) fun _ =>
    ite_rel comp fun _ => plain
  cases attrComment c attr with
  | error e => exact err e
  | ok cm => exact proj cm

/-- The case analysis of `wrapObj`, once.  `untyped`: an object without `__type__` fails only after its body was formatted. -/
theorem wrapObj_rel {R : Res (List Line) → Res (List Line) → Prop} {o o' : Opts} {level : Nat} {f : Fields}
    {b b' : Res (List Line)} (err : ∀ e, R (.error e) (.error e))
    (block : ∀ c t, R
      (typeComment o level c >>= fun tc => b >>= fun x =>
        pure (tc ++ [⟨.opener, level, upper t, 0, [], []⟩] ++ x ++ [endLine o level t]))
      (typeComment o' level c >>= fun tc => b' >>= fun x =>
        pure (tc ++ [⟨.opener, level, upper t, 0, [], []⟩] ++ x ++ [endLine o' level t])))
    (untyped : R (b >>= fun _ => .error .unboundLocal) (b' >>= fun _ => .error .unboundLocal)) :
    R (wrapObj o level f b) (wrapObj o' level f b') := by
  unfold wrapObj
  cases commentsOf f with
  | error e => exact err e
  | ok c =>
    dsimp only
    split
    · refine ite_rel (fun _ => err _) fun _ => ?_
      -- `wrapObj` spells `>>=` out as `match … with | .error e => .error e | .ok x => …`; that is another matcher, so
      -- the two are not equal by unfolding, but on each combination of constructors both compute to the same term
      have := block c ‹_›
      revert this
      cases typeComment o level c <;> cases typeComment o' level c <;> cases b <;> cases b' <;> exact id
    · exact err _
    · revert untyped
      cases b <;> cases b' <;> exact id

/-- one iteration of the `_format` loop, whatever the value -/
def entry (o : Opts) (T : Table) (level : Nat) (ty : Option Str) (c : Fields) (al : Nat) (attr : Str) (v : J) :
    Res (List Line) :=
  if isMetaKey attr then .ok []
  else if isHiddenContainer attr v then fmtList o T (level + 1) v.elems
  else other o T level ty c al attr v (fun _ => fmt o T (level + 1) v)

theorem fmtItems_cons (o : Opts) (T : Table) (level : Nat) (ty : Option Str) (c : Fields) (al : Nat)
    (attr : Str) (v : J) (r : Fields) :
    fmtItems o T level ty c al ((attr, v) :: r) = cat (entry o T level ty c al attr v) (fmtItems o T level ty c al r) := by
  cases v with
  | list xs =>
    simp only [fmtItems, itemList, entry, isHiddenContainer, Bool.and_true, decide_eq_true_eq, J.elems]
    exact congrArg (cat · _) (ite_rel (fun _ => rfl) fun _ => ite_rel (fun _ => rfl) fun _ =>
      other_rel (fun _ => rfl) rfl rfl (fun _ => rfl) rfl rfl rfl (fun h => nomatch h) rfl)
  | _ => simp only [fmtItems, item, entry, isHiddenContainer, Bool.and_false, Bool.false_eq_true, if_false]

theorem isHiddenContainer_nonlist (a : Str) {v : J} (h : ∀ xs, v ≠ .list xs) : isHiddenContainer a v = false := by
  cases v <;> first | exact absurd rfl (h _) | simp [isHiddenContainer]

theorem isComposite_nondict {v : J} (h : ∀ g, v ≠ .dict g) : isComposite v = false := by
  cases v <;> first | exact absurd rfl (h _) | rfl

theorem isBlockValue_scalar {v : J} (hl : ∀ xs, v ≠ .list xs) (hg : ∀ g, v ≠ .dict g) : isBlockValue v = false := by
  cases v <;> first | rfl | exact absurd rfl (hl _) | exact absurd rfl (hg _)

theorem other_nodata (o : Opts) (T : Table) (level : Nat) (ty : Option Str) (c : Fields) (al : Nat) (a : Str) (v : J)
    (child : Unit → Res (List Line)) (h : isDataKey a = false) :
    other o T level ty c al a v child = if isComposite v then child () else simple o T level ty c al a v := by
  simp only [isDataKey, Bool.or_eq_false_iff, decide_eq_false_iff_not] at h
  obtain ⟨⟨⟨⟨⟨h1, h2⟩, h3⟩, h4⟩, h5⟩, h6⟩ := h
  simp only [other, h1, h2, h3, h4, h5, h6, if_false]

section
variable {o : Opts} {T : Table} {level : Nat} {ty : Option Str} {c : Fields} {al : Nat} {a : Str}

theorem entry_meta {v : J} (hm : isMetaKey a = true) : entry o T level ty c al a v = .ok [] := by
  simp only [entry, hm, if_true]

variable (hm : isMetaKey a = false)
include hm

theorem entry_objs {xs : List J} (ho : a ∈ Gen.objectListKeys) :
    entry o T level ty c al a (.list xs) = fmtList o T (level + 1) xs := by
  simp [entry, hm, isHiddenContainer, ho, J.elems]

variable (hd : isDataKey a = false)
include hd

theorem entry_obj {v : J} (hc : isComposite v = true) : entry o T level ty c al a v = fmt o T (level + 1) v := by
  have hl : ∀ xs, v ≠ .list xs := fun xs e => by rw [e] at hc; cases hc
  simp [entry, hm, isHiddenContainer_nonlist a hl, other_nodata _ _ _ _ _ _ _ _ _ hd, hc]

theorem entry_attr {v : J} (hl : ∀ xs, v ≠ .list xs) (hg : ∀ g, v ≠ .dict g) :
    entry o T level ty c al a v = simple o T level ty c al a v := by
  simp [entry, hm, isHiddenContainer_nonlist a hl, other_nodata _ _ _ _ _ _ _ _ _ hd, isComposite_nondict hg]
end

theorem isMeta_type : isMetaKey s%"__type__" = true := by decide
theorem isMeta_comments : isMetaKey s%"__comments__" = true := by decide

def sepVal (level : Nat) (k : Str) (v : J) : J :=
  if isMetaKey k then v
  else if k ∈ Gen.objectListKeys then
    (match v with
     | .list xs => .list (sepList (level + 1) xs)
     | v => if isDataKey k then v else sepChild level v)
  else if isDataKey k then v else sepChild level v

theorem sepFields_cons (level : Nat) (k : Str) (v : J) (r : Fields) :
    sepFields level ((k, v) :: r) = (k, sepVal level k v) :: sepFields level r := by
  cases v <;> simp only [sepFields, sepVal]

theorem sepFields_map (level : Nat) (f : Fields) :
    sepFields level f = f.map fun kv => (kv.1, sepVal level kv.1 kv.2) := by
  induction f with
  | nil => rfl
  | cons kv r ih => rw [sepFields_cons, ih]; rfl

theorem sepVal_meta (level : Nat) {a : Str} (v : J) (hm : isMetaKey a = true) : sepVal level a v = v := by
  simp only [sepVal, hm, if_true]

theorem sepVal_scalar (level : Nat) (a : Str) {v : J} (hl : ∀ xs, v ≠ .list xs) (hd : ∀ g, v ≠ .dict g) :
    sepVal level a v = v := by
  cases v <;> simp_all [sepVal, sepChild]

theorem sepVal_objs {a : Str} (hm : isMetaKey a = false) (level : Nat) (xs : List J) (ho : a ∈ Gen.objectListKeys) :
    sepVal level a (.list xs) = .list (sepList (level + 1) xs) := by
  simp [sepVal, hm, ho]

theorem sepVal_obj {a : Str} (hm : isMetaKey a = false) (hd : isDataKey a = false) {v : J} (hc : isComposite v = true)
    (level : Nat) : sepVal level a v = sepTree (level + 1) v := by
  cases v with
  | dict g =>
    have ht : hasKey s%"__type__" g = true := hc
    by_cases ho : a ∈ Gen.objectListKeys <;> simp [sepVal, sepTree, sepChild, hm, hd, ht, ho]
  | _ => cases hc

theorem type_not_complex (level : Nat) (v : J) : isComplexType level s%"__type__" v = false := by
  have h1 : (s%"__type__" = s%"symbol") = False := by decide
  have h2 : (s%"__type__" ∈ Gen.complexTypes) = False := by decide
  have h3 : (s%"__type__" ∈ Gen.objectListKeys) = False := by decide
  simp [isComplexType, isHiddenContainer, h1, h2, h3]

theorem lookup_type_sep (level : Nat) (f : Fields) :
    lookup s%"__type__" (separateComplex level (sepFields level f)) = lookup s%"__type__" f := by
  rw [separateComplex, lookup_append, lookup_filter _ _ (fun v => by simp [type_not_complex]),
    lookup_filter_neg _ _ (type_not_complex level), Option.or_none, sepFields_map]
  exact lookup_map_val _ _ (fun v => sepVal_meta level v isMeta_type) f

theorem typeOf_sep (level : Nat) (f : Fields) : typeOf (separateComplex level (sepFields level f)) = typeOf f := by
  simp only [typeOf, lookup_type_sep]

theorem isComposite_sepTree (level : Nat) (j : J) : isComposite (sepTree level j) = isComposite j := by
  cases j with
  | dict f => simp only [sepTree, isComposite, hasKey, lookup_type_sep]
  | _ => rfl

theorem sepTree_atom (level : Nat) {j : J} (h : ∀ f, j ≠ .dict f) : sepTree level j = j := by
  cases j with
  | dict f => exact absurd rfl (h f)
  | _ => rfl

/-- what `pprint` writes for one root object -/
def rootLines (o : Opts) (T : Table) (x : J) : Res (List Line) :=
  match x with
  | .dict f => match lookup s%"__type__" f with
    | none => .error .keyError
    | some (.str t) =>
      if t = s%"metadata" || t = s%"validation" || t = s%"connectionoptions" then keyDict o t 0 (.dict f)
      else fmt o T 0 (.dict f)
    | some _ => .error .unsupported
  | _ => .error .unsupported

theorem go_cons (o : Opts) (T : Table) (x : J) (r : List J) :
    pprintLines.go o T (x :: r) = cat (rootLines o T x) (pprintLines.go o T r) := rfl

/-- a root object that `_format` prints (every typed root but the three key/value blocks); the others are left alone by
the pre-pass and by a reload -/
def isFmtRoot : J → Bool
  | .dict f => match lookup s%"__type__" f with
    | some (.str t) => !(t = s%"metadata" || t = s%"validation" || t = s%"connectionoptions")
    | _ => false
  | _ => false

theorem isFmtRoot_congr {f g : Fields} (h : lookup s%"__type__" g = lookup s%"__type__" f) :
    isFmtRoot (.dict g) = isFmtRoot (.dict f) := by
  simp only [isFmtRoot, h]

theorem sepRoot_eq (x : J) : sepRoot x = if isFmtRoot x then sepTree 0 x else x := by
  cases x with
  | dict f =>
    cases h : lookup s%"__type__" f with
    | none => simp only [sepRoot, isFmtRoot, h, Bool.false_eq_true, if_false]
    | some t =>
      cases t with
      | str t =>
        simp only [sepRoot, isFmtRoot, h]
        generalize (_ || _ || _ : Bool) = b
        cases b <;> rfl
      | _ => simp only [sepRoot, isFmtRoot, h, Bool.false_eq_true, if_false]
  | _ => rfl

theorem rootLines_fmt {o : Opts} {T : Table} {x : J} (h : isFmtRoot x = true) : rootLines o T x = fmt o T 0 x := by
  unfold isFmtRoot at h
  unfold rootLines
  split at h
  · split at h
    · rename_i e
      simp only [e]
      exact if_neg (by simpa using h)
    · cases h
  · cases h

theorem isFmtRoot_sepTree (x : J) : isFmtRoot (sepTree 0 x) = isFmtRoot x := by
  cases x <;> first | rfl | exact isFmtRoot_congr (lookup_type_sep 0 _)

/-- the root objects `pprint` iterates over -/
def rootsOf (c : J) : Res (List J) :=
  match c with
  | .dict [] => .ok []
  | .dict f => .ok [.dict f]
  | .list xs => .ok xs
  | _ => .error .unsupported

theorem pprintLines_roots (o : Opts) (T : Table) (c : J) :
    pprintLines o T c = (match rootsOf c with
      | .error e => .error e
      | .ok rs => pprintLines.go o T (if o.sepComplex then rs.map sepRoot else rs)) := by
  unfold pprintLines rootsOf
  cases c with
  | dict f => cases f <;> rfl
  | _ => rfl

end Mappy.Printer
