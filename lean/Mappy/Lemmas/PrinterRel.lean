/- One simulation principle for the printer.  Its output is assembled by a few steps — nothing, a keyword line, comment
lines, concatenation, a block (opener, body one level deeper, END) — and two runs that differ only in layout options take
the same steps.  So every relation on line lists that these steps preserve (`Closed`) holds between the outputs of the two
runs (`fmt_lift`).  C06 (the lines say the same) and C16 (the lines are well nested) are two such relations. -/
import Mappy.Lemmas.PrinterEq

namespace Mappy.Printer

/-- `o`, `o'` write the END lines -/
structure Closed (o o' : Opts) (R : Nat → List Line → List Line → Prop) : Prop where
  nil : ∀ {n}, R n [] []
  /-- a keyword line; the padding is layout -/
  attr : ∀ {n k p p' v c r r'}, R n r r' → R n (⟨.attr, n, k, p, v, c⟩ :: r) (⟨.attr, n, k, p', v, c⟩ :: r')
  /-- comment lines are layout -/
  comments : ∀ {n tc tc' r r'}, (∀ l ∈ tc, l.kind = .comment) → (∀ l ∈ tc', l.kind = .comment) → R n r r' →
    R n (tc ++ r) (tc' ++ r')
  append : ∀ {n a a' b b'}, R n a a' → R n b b' → R n (a ++ b) (a' ++ b')
  block : ∀ {n key b b'}, R (n + 1) b b' →
    R n ([⟨.opener, n, upper key, 0, [], []⟩] ++ b ++ [endLine o n key])
      ([⟨.opener, n, upper key, 0, [], []⟩] ++ b' ++ [endLine o' n key])

/-- a block under its type comment, as `wrapObj` and `keyDict` assemble it -/
theorem Closed.blockC {o o' : Opts} {R : Nat → List Line → List Line → Prop} (h : Closed o o' R) {n : Nat} {key : Str}
    {tc tc' b b' : List Line} (ht : ∀ l ∈ tc, l.kind = .comment) (ht' : ∀ l ∈ tc', l.kind = .comment) (hb : R (n + 1) b b') :
    R n (tc ++ [⟨.opener, n, upper key, 0, [], []⟩] ++ b ++ [endLine o n key])
      (tc' ++ [⟨.opener, n, upper key, 0, [], []⟩] ++ b' ++ [endLine o' n key]) := by
  simp only [List.append_assoc]
  exact h.comments ht ht' (by simpa only [List.append_assoc] using h.block hb)

def Lift (R : Nat → List Line → List Line → Prop) (n : Nat) (x x' : Res (List Line)) : Prop :=
  match x, x' with
  | .ok a, .ok a' => R n a a'
  | .error e, .error e' => e = e'
  | _, _ => False

section
variable {R S : Nat → List Line → List Line → Prop} {n m : Nat}

theorem Lift.error (e : PyErr) : Lift R n (.error e) (.error e) := rfl

theorem Lift.ok_iff {a a' : List Line} : Lift R n (.ok a) (.ok a') ↔ R n a a' := Iff.rfl

theorem Lift.cases {x x' : Res (List Line)} (h : Lift R n x x') :
    (∃ a a', x = .ok a ∧ x' = .ok a' ∧ R n a a') ∨ ∃ e, x = .error e ∧ x' = .error e := by
  cases x with
  | ok a =>
    cases x' with
    | ok a' => exact .inl ⟨a, a', rfl, rfl, h⟩
    | error e' => exact h.elim
  | error e =>
    cases x' with
    | ok a' => exact h.elim
    | error e' => exact .inr ⟨e, rfl, congrArg Except.error (Eq.symm h)⟩

theorem Lift.bind {x x' : Res (List Line)} {f f' : List Line → Res (List Line)} (hx : Lift S m x x')
    (hf : ∀ a a', S m a a' → Lift R n (f a) (f' a')) : Lift R n (x >>= f) (x' >>= f') := by
  rcases hx.cases with ⟨a, a', rfl, rfl, ha⟩ | ⟨e, rfl, rfl⟩
  · exact hf a a' ha
  · exact .error e

theorem Lift.bind_same {α : Type} {x : Res α} {f f' : α → Res (List Line)}
    (hf : ∀ a, x = .ok a → Lift R n (f a) (f' a)) : Lift R n (x >>= f) (x >>= f') := by
  cases x
  · rfl
  · exact hf _ rfl

theorem Lift.cat {o o' : Opts} (h : Closed o o' R) {a a' b b' : Res (List Line)} (ha : Lift R n a a') (hb : Lift R n b b') :
    Lift R n (cat a b) (cat a' b') := by
  rcases ha.cases with ⟨x, x', rfl, rfl, ha⟩ | ⟨e, rfl, rfl⟩
  · rcases hb.cases with ⟨y, y', rfl, rfl, hb⟩ | ⟨e, rfl, rfl⟩
    · exact h.append ha hb
    · exact .error e
  · exact .error e
end

theorem typeComment_lift (o o' : Opts) (level : Nat) (c : Fields) :
    Lift (fun _ a b => (∀ l ∈ a, l.kind = .comment) ∧ ∀ l ∈ b, l.kind = .comment) 0
      (typeComment o level c) (typeComment o' level c) := by
  unfold typeComment
  cases typeCommentTexts c with
  | error e => rfl
  | ok ss =>
    have : ∀ o : Opts, ∀ l ∈ (if joinWith o.newline (ss.map (ws o level ++ ·)) = [] then []
        else ss.map fun s => (⟨.comment, level, s, 0, [], []⟩ : Line)), l.kind = .comment := by
      intro o l hl
      split at hl
      · cases hl
      · obtain ⟨s, _, rfl⟩ := List.mem_map.mp hl; rfl
    exact ⟨this o, this o'⟩

theorem pairLine_ok {level : Nat} {p : J} {l : Line} (h : pairLine level p = .ok l) :
    ∃ k, l = ⟨.attr, level + 2, k, 0, [], []⟩ := by
  unfold pairLine at h
  -- one branch of `pairLine` returns a line, this one; all the others are errors
  split at h <;> (try split at h) <;> (try split at h) <;> first | exact ⟨_, (Except.ok.inj h).symm⟩ | cases h

section
variable {o o' : Opts} {R : Nat → List Line → List Line → Prop} (h : Closed o o' R) (hq : o.quote = o'.quote)
include h

theorem pairLines_lift (level : Nat) (ps : List J) : Lift R (level + 2) (pairLines level ps) (pairLines level ps) := by
  induction ps with
  | nil => exact h.nil
  | cons p r ih =>
    refine .bind_same fun l hl => .bind ih fun _ _ hr => ?_
    obtain ⟨k, rfl⟩ := pairLine_ok hl
    exact h.attr hr

theorem pairBlock_lift (key : Str) (level : Nat) (v : J) :
    Lift R (level + 1) (pairBlock o key level v) (pairBlock o' key level v) := by
  unfold pairBlock
  split
  · exact .bind (pairLines_lift h level _) fun _ _ hb => h.block hb
  · exact .bind (pairLines_lift h level _) fun _ _ hb => h.block hb
  · exact .error _

theorem pointsBlocks_lift (key : Str) (level : Nat) (v : J) :
    Lift R (level + 1) (pointsBlocks o key level v) (pointsBlocks o' key level v) := by
  have go : ∀ xs, Lift R (level + 1) (pointsBlocks.go o key level xs) (pointsBlocks.go o' key level xs) := by
    intro xs
    induction xs with
    | nil => exact h.nil
    | cons b r ih => exact .bind (pairBlock_lift h key level b) fun _ _ hx => .bind ih fun _ _ hy => h.append hx hy
  unfold pointsBlocks
  split
  · split
    · exact pairBlock_lift h key level _
    · split
      · exact go _
      · exact .error _
  · exact .error _

include hq

theorem kvLines_lift (level al al' : Nat) (c : Fields) (d : Fields) :
    Lift R (level + 2) (kvLines o level al c d) (kvLines o' level al' c d) := by
  induction d with
  | nil => exact h.nil
  | cons kv r ih =>
    obtain ⟨k, v⟩ := kv
    simp only [kvLines, ← hq]
    split
    · exact ih
    · split
      · exact .error _
      · split
        · exact .error _
        · exact .bind_same fun _ _ => .bind ih fun _ _ hr => h.attr hr

theorem keyDict_lift (key : Str) (level : Nat) (v : J) :
    Lift R (level + 1) (keyDict o key level v) (keyDict o' key level v) := by
  cases v with
  | dict d =>
    exact .bind_same fun c _ => .bind (typeComment_lift o o' level c) fun _ _ ht =>
      .bind (kvLines_lift h hq level _ _ c d) fun _ _ hb => h.blockC ht.1 ht.2 hb
  | _ => exact .error _

theorem configLines_lift (level : Nat) (v : J) : Lift R (level + 1) (configLines o level v) (configLines o' level v) := by
  cases v with
  | dict d =>
    show Lift R (level + 1) (configLines.go o level d) (configLines.go o' level d)
    induction d with
    | nil => exact h.nil
    | cons kv r ih =>
      simp only [configLines.go, ← hq]
      split
      · exact .error _
      · exact .bind ih fun _ _ hr => h.attr hr
  | _ => exact .error _

theorem repeatedLines_lift (key : Str) (level al al' : Nat) (v : J) :
    Lift R (level + 1) (repeatedLines o key level al v) (repeatedLines o' key level al' v) := by
  cases v with
  | list xs =>
    show Lift R (level + 1) (repeatedLines.go o key level al xs) (repeatedLines.go o' key level al' xs)
    induction xs with
    | nil => exact h.nil
    | cons v r ih =>
      simp only [repeatedLines.go, ← hq]
      split
      · exact .error _
      · exact .bind ih fun _ _ hr => h.attr hr
  | _ => exact .error _

omit hq in
theorem projBody_lift (level : Nat) (v : J) : Lift R (level + 2) (projBody o level v) (projBody o level v) := by
  have map : ∀ ss : List Str, R (level + 2) (ss.map fun s => ⟨.attr, level + 2, Quoter.addQuotes o.quote s, 0, [], []⟩)
      (ss.map fun s => ⟨.attr, level + 2, Quoter.addQuotes o.quote s, 0, [], []⟩) := by
    intro ss
    induction ss with
    | nil => exact h.nil
    | cons s r ih => exact h.attr ih
  unfold projBody
  split
  · exact h.attr h.nil
  · split
    · split <;> exact h.attr h.nil
    · exact map _
    · exact .error _
  · exact .error _

theorem projectionLines_lift (key : Str) (level : Nat) (cmt : Str) (v : J) :
    Lift R (level + 1) (projectionLines o key level cmt v) (projectionLines o' key level cmt v) := by
  have body := projBody_lift h level v
  have hb : projBody o' level v = projBody o level v := by
    unfold projBody
    rw [hq]
  unfold projectionLines
  rw [hb]
  generalize projBody o level v = r at body
  cases r with
  | error e => exact .error _
  | ok b =>
    have hc : ∀ l ∈ (if cmt = [] then [] else [(⟨.comment, level + 2, strip cmt, 0, [], []⟩ : Line)]), l.kind = .comment := by
      intro l hl
      split at hl
      · cases hl
      · rw [List.mem_singleton.mp hl]
    show R _ _ _
    rw [List.append_assoc [_], List.append_assoc [_]]
    exact h.block (h.comments hc hc body)

theorem simple_lift (T : Table) (level : Nat) (ty : Option Str) (c : Fields) (al al' : Nat) (attr : Str) (v : J) :
    Lift R (level + 1) (simple o T level ty c al attr v) (simple o' T level ty c al' attr v) := by
  unfold simple
  cases ty with
  | none => exact .error _
  | some t =>
    simp only [attrLine, ← hq]
    cases cellOf T t attr with
    | none => exact .error _
    | some p =>
      dsimp only
      cases formatValue o.quote attr p v with
      | error e => exact .error _
      | ok tx =>
        cases attrComment c attr with
        | error e => exact .error _
        | ok cm => exact h.attr h.nil

/-- **the principle**: the outputs of two runs that agree on the quote character are related by every closed relation -/
theorem fmt_lift (T : Table) :
    (∀ j level, Lift R level (fmt o T level j) (fmt o' T level j)) ∧
    (∀ f level ty c al al', Lift R (level + 1) (fmtItems o T level ty c al f) (fmtItems o' T level ty c al' f)) ∧
    (∀ xs level, Lift R level (fmtList o T level xs) (fmtList o' T level xs)) := by
  refine J.induct ?_ ?_ ?_ ?_ ?_ ?_
  · exact fun f ih level => wrapObj_rel Lift.error
      (fun c _ => .bind (typeComment_lift o o' level c) fun _ _ ht => .bind (ih level _ _ _ _) fun _ _ hb =>
        h.blockC ht.1 ht.2 hb)
      (.bind (ih level _ _ _ _) fun _ _ _ => .error _)
  · exact fun j hj level => by rw [fmt_atom o T level hj, fmt_atom o' T level hj]; exact .error _
  · exact fun _ _ _ _ _ => h.nil
  · intro k v r hv hl hr level ty c al al'
    rw [fmtItems_cons, fmtItems_cons]
    refine .cat h (ite_rel (fun _ => h.nil) fun _ => ite_rel (fun _ => hl _) fun _ => ?_) (hr level ty c al al')
    exact other_rel Lift.error (pairBlock_lift h k level v) (keyDict_lift h hq k level v)
      (fun cm => projectionLines_lift h hq k level cm v) (repeatedLines_lift h hq k level al al' v)
      (pointsBlocks_lift h k level v) (configLines_lift h hq level v) (fun _ => hv _)
      (simple_lift h hq T level ty c al al' k v)
  · exact fun _ => h.nil
  · exact fun x r hx hr level => .cat h (hx level) (hr level)

end

end Mappy.Printer
