/-
  Helper lemmas for C17 (dict model): the representation invariant as a property of the stored pairs,
  `_convert_keys` is a rotation, pouring.
-/
import Mappy.Model.CIDict
import Mappy.Lemmas.Assoc

namespace Mappy.CIDict
open Spec

/-- What `Inv s` says, as a property of `s.items` alone (`Inv s` unfolds to `LowerNodup s.items`; the factory
plays no part in it). -/
def LowerNodup (its : Fields) : Prop := (∀ k ∈ keys its, lower k = k) ∧ (keys its).Nodup

theorem LowerNodup.nil : LowerNodup [] := ⟨by simp, by simp⟩

theorem LowerNodup.setKey {its : Fields} (h : LowerNodup its) {k : Str} (hk : lower k = k) (v : J) :
    LowerNodup (setKey k v its) :=
  ⟨fun k' hk' => ((mem_keys_setKey k k' v its).1 hk').elim (· ▸ hk) (h.1 k'), nodup_setKey k v its h.2⟩

theorem LowerNodup.delKey {its : Fields} (h : LowerNodup its) (k : Str) : LowerNodup (delKey k its) :=
  ⟨fun k' hk' => h.1 k' (keys_delKey_sub k k' its hk'), nodup_delKey k its h.2⟩

theorem pour_nil (its : Fields) : pour its [] = its := rfl

theorem pour_cons (its : Fields) (p : Str × J) (ps : Fields) :
    pour its (p :: ps) = pour (setKey (lower p.1) p.2 its) ps := rfl

theorem LowerNodup.pour {its : Fields} (h : LowerNodup its) (ps : Fields) : LowerNodup (pour its ps) := by
  induction ps generalizing its with
  | nil => exact h
  | cons p ps ih => exact ih (h.setKey (lower_idem _) _)

theorem updatePairs_eq (s : St) (ps : Fields) :
    updatePairs s ps = { s with items := pour s.items ps } := by
  induction ps generalizing s with
  | nil => rfl
  | cons p ps ih => exact ih _

/-- the rotation lemma behind `_convert_keys`: popping each key in order and storing it again
re-creates the same ordered contents -/
theorem convert_rot (f : Bool) (pre post : Fields) (h : LowerNodup (pre ++ post)) :
    (keys pre).foldl convStep ⟨f, pre ++ post⟩ = ⟨f, post ++ pre⟩ := by
  induction pre generalizing post with
  | nil => simp
  | cons p pre ih =>
    obtain ⟨k, v⟩ := p
    have hk : lower k = k := h.1 k (by simp)
    have hnd : k ∉ keys (pre ++ post) := (List.nodup_cons.1 h.2).1
    have hstep : setKey k v (pre ++ post) = pre ++ (post ++ [(k, v)]) := by
      rw [setKey_of_not_mem k v _ hnd, List.append_assoc]
    have h1 : convStep ⟨f, (k, v) :: pre ++ post⟩ k = ⟨f, pre ++ (post ++ [(k, v)])⟩ := by
      simp [convStep, odGet, lookup, delKey, setitem, odSet, k_, hk, hstep]
    have hdel : LowerNodup (pre ++ post) := by simpa [delKey] using h.delKey k
    simp only [keys_cons, List.foldl_cons]
    rw [h1, ih (post ++ [(k, v)]) (hstep ▸ hdel.setKey hk v)]
    simp

theorem convertKeys_id (s : St) (h : Inv s) : convertKeys s = s := by
  simpa [convertKeys] using convert_rot s.factory s.items [] (by rw [List.append_nil]; exact h)

theorem construct_eq (f : Bool) (e kw : Fields) :
    construct f e kw = ⟨f, pour (pour [] e) kw⟩ := by
  unfold construct
  rw [updatePairs_eq, updatePairs_eq]
  exact convertKeys_id _ ((LowerNodup.nil.pour e).pour kw)

theorem pour_setKey_present (r b : Fields) (k : Str) (v : J) (hk : k ∈ keys b)
    (hr : ∀ p ∈ r, lower p.1 ≠ k) : pour (setKey k v b) r = setKey k v (pour b r) := by
  induction r generalizing b with
  | nil => rfl
  | cons q r ih =>
    have h1 : lower q.1 ≠ k := hr q (by simp)
    simp only [pour_cons]
    rw [← setKey_comm_of_mem k (lower q.1) v q.2 b (Ne.symm h1) hk]
    exact ih _ ((mem_keys_setKey _ _ _ _).2 (Or.inr hk)) (fun p hp => hr p (by simp [hp]))

theorem pour_setKey (its acc : Fields) (k : Str) (v : J) (hk : lower k = k) (hacc : LowerNodup acc) :
    pour its (setKey k v acc) = setKey k v (pour its acc) := by
  induction acc using Fields.ind generalizing its with
  | nil => simp [setKey, pour, hk]
  | cons k0 v0 r ih =>
    have hk0 : lower k0 = k0 := hacc.1 k0 (by simp)
    have hr : LowerNodup r := by simpa [delKey] using hacc.delKey k0
    by_cases h1 : k0 = k
    · subst h1
      have hnot : ∀ p ∈ r, lower p.1 ≠ k0 := fun p hp e => by
        have hm := mem_keys_of_mem hp
        rw [hr.1 p.1 hm] at e
        exact (List.nodup_cons.1 hacc.2).1 (e ▸ hm)
      simpa [setKey, pour_cons, hk0, setKey_setKey_same] using
        pour_setKey_present r (setKey k0 v0 its) k0 v ((mem_keys_setKey _ _ _ _).2 (Or.inl rfl)) hnot
    · simp only [setKey, h1, if_false, pour_cons, hk0]
      exact ih _ hr

theorem pour_pour_gen (ps its acc : Fields) (hacc : LowerNodup acc) :
    pour its (pour acc ps) = pour (pour its acc) ps := by
  induction ps generalizing acc with
  | nil => rfl
  | cons p ps ih =>
    simp only [pour_cons]
    rw [ih _ (hacc.setKey (lower_idem _) _), pour_setKey its acc _ _ (lower_idem _) hacc]

/-- building a temporary case-folded dict first and pouring that = pouring the pairs directly -/
theorem pour_via_temp (its ps : Fields) : pour its (pour [] ps) = pour its ps :=
  pour_pour_gen ps its [] .nil

theorem pour_self (its : Fields) (h : LowerNodup its) : pour [] its = its :=
  (foldl_setKey_lower its (fun _ hkv => h.1 _ (mem_keys_of_mem hkv)) h.2 [] (fun _ _ => nofun)).trans (List.nil_append its)

theorem construct_self (s : St) (h : Inv s) : construct s.factory s.items [] = s := by
  rw [construct_eq]; exact congrArg _ (pour_self s.items h)

end Mappy.CIDict
