/-
  C01 above the value theorems, on the tree of the printed text.
  A keyword line: for each lexical class the printer can choose, the tree Lark builds for `KEYWORD <token the printer
  wrote>` is transformed (`mainT`: the value rule's call-back, then `attr`) into an attribute whose key is the keyword in
  lower case and whose value is the original value up to the two allowed differences.
  A level: the items of a block, folded by `composite` (followed on the block's own dict, `dItem`), rebuild the dictionary
  entry by entry; key/value blocks by `valuePairs`.  A document: rule induction over the class `WellRead` of block trees.
  What remains outside: that Lark's lexer puts the printed token into the class named here (compared on every case by
  the harness: the class of every value token of the real tree of the printed text).
-/
import Mappy.Props.C01
import Mappy.Model.Classify
import Mappy.Lemmas.TransformerEqs

namespace Mappy.RoundTrip
open Mappy Mappy.Printer Mappy.Quoter Mappy.Transformer

/-- a token as the lexer makes it: `.value` is the matched text -/
def lexTok (ty text : Str) : Tok := ⟨ty, text, .str text, .null, .null⟩

/-- the tree of a keyword line whose value is one token wrapped in the rule `cls` (string, int, float, true, …) -/
def lineTree (kw cls ty text : Str) : R :=
  .tree s%"attr" none [.tok (lexTok s%"UNQUOTED_STRING" kw), .tree cls none [.tok (lexTok ty text)]]

/-- … or a bare word, which stays a token -/
def lineTreeBare (kw ty text : Str) : R :=
  .tree s%"attr" none [.tok (lexTok s%"UNQUOTED_STRING" kw), .tok (lexTok ty text)]

/-- what `composite` reads off the result -/
def lineValue (cfg : Cfg) (tree : R) : Res (Str × J) :=
  match mainT cfg tree with
  | .ok (.adict kvs) => (match attrParts kvs with | .ok (k, v, _) => .ok (k, v) | .error e => .error e)
  | .ok _ => .error .typeError
  | .error e => .error e

def posOf (_kw : Str) (vt : Tok) : J :=
  .dict [(s%"line", .null), (s%"column", .null), (s%"values", .list [posPair vt])]

theorem mainT_line (cfg : Cfg) (cm : Option (List Str)) (k vt : Tok) (kn : Str) (value : R) (hk : valLower k = .ok kn)
    (hu : underscored kn = false) (hv : mainT cfg value = .ok (.tok vt)) :
    mainT cfg (.tree s%"attr" cm [.tok k, value]) = .ok (.adict (attrDict k kn [vt] (stored vt))) := by
  rw [mainT_tree_ok _ _ (mainTL_cons_ok rfl (mainTL_cons_ok hv rfl)), callback_attr, attr_one k vt kn hk hu]

theorem lineValue_of_token (cfg : Cfg) (kw : Str) (value : R) (vt : Tok) (hk : underscored (lower kw) = false)
    (hv : mainT cfg value = .ok (.tok vt)) (hs : stripJ (stored vt) = stored vt) :
    lineValue cfg (.tree s%"attr" none [.tok (lexTok s%"UNQUOTED_STRING" kw), value]) = .ok (lower kw, stored vt) := by
  simp only [lineValue, mainT_line cfg none (lexTok s%"UNQUOTED_STRING" kw) vt (lower kw) value rfl hk hv,
    attrParts_attrDict _ _ _ _ hk hs]

theorem mainT_rule (cfg : Cfg) (cls : Str) (t : Tok) : mainT cfg (.tree cls none [.tok t]) = callback cfg cls none [.tok t] :=
  mainT_tree_ok cls none rfl

/-- **C01_line_string** — a free string (the hypotheses of `C01_string_roundtrip`) at keyword `attr`: the line the
printer writes, with the keyword in ANY letter case, is read back as `attr ↦ s` -/
theorem C01_line_string (cfg : Cfg) (q : Char) (hq : q = '"' ∨ q = '\'') (attr kw ty : Str) (p : CellProps) (s : Str)
    (h : okFor attr p .str = true) (hs : plainStr attr p s = true) (hn : q ∉ s)
    (hkw : lower kw = attr) (hk : underscored attr = false) :
    ∃ t, formatValue q attr p (.str s) = .ok t ∧ lineValue cfg (lineTree kw s%"string" ty t) = .ok (attr, .str s) := by
  obtain ⟨t, ht, hc⟩ := C01_string_roundtrip q hq attr p s h hs hn
  subst hkw
  exact ⟨t, ht, (lineValue_of_token cfg kw _ (lexTok ty t) hk
    ((mainT_rule cfg _ _).trans (callback_passthrough cfg _ none _ (Or.inl rfl))) rfl).trans (by rw [← hc]; rfl)⟩

/-- **C01_line_int** — an integer at a keyword that is neither enumerated nor typed `string` -/
theorem C01_line_int (cfg : Cfg) (q : Char) (attr kw ty : Str) (p : CellProps) (n : Int)
    (he : p.hasEnum = false) (ht : p.typeString = false)
    (hkw : lower kw = attr) (hk : underscored attr = false) :
    formatValue q attr p (.int n) = .ok (intStr n) ∧
    lineValue cfg (lineTree kw s%"int" ty (intStr n)) = .ok (attr, .int n) := by
  subst hkw
  constructor
  · rw [formatValue_int, he, ht]; rfl
  · exact lineValue_of_token cfg kw _ _ hk
      ((mainT_rule cfg _ _).trans (C02_ints cfg none (lexTok ty (intStr n)) _ n rfl (C01_int_roundtrip n))) rfl

/-- **C01_line_enum** — an enumerated word: written bare and upper-cased, read back as the upper-cased word (the allowed
difference `normV`), provided the word is not itself wrapped in quotes -/
theorem C01_line_enum (cfg : Cfg) (q : Char) (attr kw ty : Str) (p : CellProps) (s : Str)
    (he : p.hasEnum = true) (hc : attr ≠ s%"compop") (hb : Quoter.inQuotes '"' (upper s) = false)
    (hkw : lower kw = attr) (hk : underscored attr = false) :
    formatValue q attr p (.str s) = .ok (upper s) ∧
    lineValue cfg (lineTreeBare kw ty (upper s)) = .ok (attr, normV attr p (.str s)) := by
  obtain ⟨h1, h2⟩ := C01_enum_roundtrip q attr p s he hc
  subst hkw
  exact ⟨h1, (lineValue_of_token cfg kw _ (lexTok ty (upper s)) hk rfl rfl).trans
    (by rw [h2]; show Except.ok (lower kw, J.str (cleanString (upper s))) = _; rw [C02_bare_unchanged _ hb])⟩

/-- **C01_line_number_as_string** — a number at a keyword typed `string`: written quoted, read back as its decimal string -/
theorem C01_line_number_as_string (cfg : Cfg) (q : Char) (hq : q = '"' ∨ q = '\'') (attr kw ty : Str) (p : CellProps) (n : Int)
    (he : p.hasEnum = false) (ht : p.typeString = true) (hx : p.isExpr = false)
    (hkw : lower kw = attr) (hk : underscored attr = false) :
    ∃ t, formatValue q attr p (.int n) = .ok t ∧
      lineValue cfg (lineTree kw s%"string" ty t) = .ok (attr, normV attr p (.int n)) := by
  obtain ⟨t, h1, h2, h3⟩ := C01_number_at_string_keyword q hq attr p n he ht hx
  subst hkw
  exact ⟨t, h1, (lineValue_of_token cfg kw _ (lexTok ty t) hk
    ((mainT_rule cfg _ _).trans (callback_passthrough cfg _ none _ (Or.inl rfl))) rfl).trans (by rw [h3, ← h2]; rfl)⟩

/-- **C01_line_bool** — TRUE / FALSE -/
theorem C01_line_bool (cfg : Cfg) (q : Char) (attr kw ty : Str) (p : CellProps) (b : Bool)
    (hkw : lower kw = attr) (hk : underscored attr = false) :
    formatValue q attr p (.bool b) = .ok (if b then s%"TRUE" else s%"FALSE") ∧
    lineValue cfg (lineTree kw (if b then s%"true" else s%"false") ty (if b then s%"TRUE" else s%"FALSE")) = .ok (attr, .bool b) := by
  subst hkw
  refine ⟨C01_bool_roundtrip q _ p b, ?_⟩
  cases b
  · exact lineValue_of_token cfg kw _ _ hk ((mainT_rule cfg _ _).trans (C02_booleans cfg none _).2) rfl
  · exact lineValue_of_token cfg kw _ _ hk ((mainT_rule cfg _ _).trans (C02_booleans cfg none _).1) rfl

/-- the subtrees Lark builds for a list of integers -/
def intTrees (ty : Str) : List Int → List R
  | [] => []
  | n :: r => .tree s%"int" none [.tok (lexTok ty (intStr n))] :: intTrees ty r

/-- the integer token after the `int` call-back -/
def intTok (ty : Str) (n : Int) : Tok := { lexTok ty (intStr n) with val := .int n }

theorem mainTL_intTrees (cfg : Cfg) (ty : Str) : (ns : List Int) →
    mainTL cfg (intTrees ty ns) = .ok ((ns.map (intTok ty)).map .tok)
  | [] => rfl
  | n :: r => mainTL_cons_ok
      ((mainT_rule cfg _ _).trans (C02_ints cfg none (lexTok ty (intStr n)) _ n rfl (C01_int_roundtrip n)))
      (mainTL_intTrees cfg ty r)

/-- **C01_line_ints** — a line of two or more integers (`COLOR 255 0 0`, `SIZE 400 300`, an integer `EXTENT` …) under any
of the grammar's grouping rules that hand `attr` one tuple/list of the tokens: the value read back is the list of the
integers, in order, for EVERY list of integers -/
theorem C01_line_ints (cfg : Cfg) (kw ty : Str) (tuple : Bool) (ns : List Int) (hk : underscored (lower kw) = false)
    (hc : lower kw ≠ s%"config") (hl : ns.length > 1) :
    ∃ toks : List Tok, mainTL cfg (intTrees ty ns) = .ok (toks.map R.tok) ∧
      ∃ kvs, attr [.tok (lexTok s%"UNQUOTED_STRING" kw), .seq tuple (toks.map R.tok)] = .ok (.adict kvs) ∧
        lookupAV (lower kw) kvs = some (.j (.list (ns.map J.int))) := by
  refine ⟨ns.map (intTok ty), mainTL_intTrees cfg ty ns,
    attrDict (lexTok s%"UNQUOTED_STRING" kw) (lower kw) (ns.map (intTok ty)) (.list ((ns.map (intTok ty)).map (·.val))), ?_, ?_⟩
  · match ns, hl with
    | a :: b :: r, _ => exact (attr_seq _ tuple _ _).trans (attr_many _ (_ :: _) (lower kw) rfl hk hc (by simp))
  · rw [lookupAV_attrDict _ _ _ _ hk, List.map_map]
    rfl

inductive LinesOf : List R → List (Str × J) → Prop
  | nil : LinesOf [] []
  | cons (kvs : List (Str × AV)) (k : Str) (v p : J) (items : List R) (pairs : List (Str × J)) :
      attrParts kvs = .ok (k, v, p) → LinesOf items pairs → LinesOf (.adict kvs :: items) ((k, v) :: pairs)

/-- keywords that take the plain-assignment branch of `composite` -/
def plainKeys (Rp : List Str) (pairs : List (Str × J)) : Prop :=
  ∀ kv ∈ pairs, kv.1 ≠ s%"config" ∧ kv.1 ≠ s%"points" ∧ Rp.contains kv.1 = false

/-- a run of lines of one repeated keyword (PROCESSING, FORMATOPTION, …) and the values they carry -/
inductive RepRun (k : Str) : List R → List J → Prop
  | nil : RepRun k [] []
  | cons (kvs : List (Str × AV)) (v p : J) (items : List R) (vs : List J) :
      attrParts kvs = .ok (k, v, p) → RepRun k items vs → RepRun k (.adict kvs :: items) (v :: vs)

/-- the items `composite` receives for the entries of a dictionary written in dictionary order (children already read):
a keyword line per simple entry, one block per singleton entry, the blocks of a list entry one after the other,
the lines of a repeated keyword one after the other -/
inductive EntriesOf (S Rp : List Str) : List R → Fields → Prop
  | nil : EntriesOf S Rp [] []
  | rep (k : Str) (run : List R) (vs : List J) (items : List R) (d : Fields) :
      vs ≠ [] → Rp.contains k = true → k ≠ s%"config" → k ≠ s%"points" → RepRun k run vs →
      EntriesOf S Rp items d → EntriesOf S Rp (run ++ items) ((k, .list vs) :: d)
  /-- a first POINTS block is a plain entry too -/
  | line (kvs : List (Str × AV)) (k : Str) (v p : J) (items : List R) (d : Fields) :
      attrParts kvs = .ok (k, v, p) → (k ≠ s%"config" ∧ Rp.contains k = false) →
      EntriesOf S Rp items d → EntriesOf S Rp (.adict kvs :: items) ((k, v) :: d)
  | single (k : Str) (sub : Fields) (items : List R) (d : Fields) :
      lookup s%"__type__" sub = some (.str k) → S.contains k = true → underscored k = false →
      EntriesOf S Rp items d → EntriesOf S Rp (.cdict sub :: items) ((k, .dict sub) :: d)
  | many (t : Str) (subs : List Fields) (items : List R) (d : Fields) :
      subs ≠ [] → (∀ sub ∈ subs, lookup s%"__type__" sub = some (.str t)) → S.contains t = false → underscored t = false →
      EntriesOf S Rp items d → EntriesOf S Rp (subs.map .cdict ++ items) ((plural t, .list (subs.map .dict)) :: d)

theorem fold_blocks (cfg : Cfg) (S Rp : List Str) (t : Str) (hS : S.contains t = false) (hu : underscored t = false) :
    (subs : List Fields) → (∀ sub ∈ subs, lookup s%"__type__" sub = some (.str t)) →
    ∀ (st : CState) (base : Fields) (xs : List J), st.d = base ++ [(plural t, .list xs)] → plural t ∉ keys base →
    ∃ st', (subs.map R.cdict).foldlM (compositeItem cfg S Rp) st = .ok st' ∧
      st'.d = base ++ [(plural t, .list (xs ++ subs.map .dict))] ∧ st'.pd = st.pd
  | [], _, st, base, xs, hd, _ => ⟨st, rfl, by simp [hd], rfl⟩
  | sub :: r, hall, st, base, xs, hd, hfresh => by
    have hstep : compositeItem cfg S Rp st (.cdict sub) = .ok { st with d := base ++ [(plural t, .list (xs ++ [.dict sub]))] } := by
      simp only [compositeItem, blockItem_typed (hall sub (by simp)) hu, hS, hd, appendTo_last _ _ base xs hfresh]; rfl
    obtain ⟨st', hf, hd', hp'⟩ := fold_blocks cfg S Rp t hS hu r (fun x hx => hall x (by simp [hx]))
      { st with d := base ++ [(plural t, .list (xs ++ [.dict sub]))] } base _ rfl hfresh
    exact ⟨st', (foldlM_cons_ok _ hstep).trans hf, by rw [hd', List.append_assoc]; rfl, hp'⟩

/-- blocks look neither at the flags nor at the position record: any will do -/
theorem fold_blocks_d (S Rp : List Str) (t : Str) (hS : S.contains t = false) (hu : underscored t = false) (subs : List Fields)
    (hall : ∀ sub ∈ subs, lookup s%"__type__" sub = some (.str t)) (base : Fields) (xs : List J) (hfresh : plural t ∉ keys base) :
    (subs.map R.cdict).foldlM (dItem S Rp) (base ++ [(plural t, .list xs)]) = .ok (base ++ [(plural t, .list (xs ++ subs.map .dict))]) := by
  obtain ⟨st', hf, hd, _⟩ := fold_blocks ⟨false, false, fun _ => none⟩ S Rp t hS hu subs hall ⟨_, none, []⟩ base xs rfl hfresh
  rw [← hd]; exact foldlM_d _ hf

theorem fold_rep (S Rp : List Str) (k : Str) (hR : Rp.contains k = true) (h1 : k ≠ s%"config") (h2 : k ≠ s%"points") :
    (run : List R) → (vs : List J) → RepRun k run vs → ∀ (base : Fields) (xs : List J), k ∉ keys base →
    run.foldlM (dItem S Rp) (base ++ [(k, .list xs)]) = .ok (base ++ [(k, .list (xs ++ vs))])
  | _, _, .nil, base, xs, _ => by rw [List.append_nil]; rfl
  | _, _, .cons kvs v p items vs hparts hrest, base, xs, hfresh => by
    have hstep : dItem S Rp (base ++ [(k, .list xs)]) (.adict kvs) = .ok (base ++ [(k, .list (xs ++ [v]))]) := by
      simp only [dItem, hparts, dataStep_repeated hR h1 h2, appendTo_last _ _ base xs hfresh]
    rw [foldlM_cons_ok _ hstep, fold_rep S Rp k hR h1 h2 items vs hrest base _ hfresh, List.append_assoc]; rfl

theorem fold_after {f : Fields → R → Res Fields} {run items : List R} {acc d : Fields} {k : Str} {v : J}
    (hfresh : ∀ kv ∈ (k, v) :: d, kv.1 ∉ keys acc) (hnd : (keys ((k, v) :: d)).Nodup)
    (hrun : run.foldlM f acc = .ok (acc ++ [(k, v)]))
    (hrest : ∀ acc', (∀ kv ∈ d, kv.1 ∉ keys acc') → (keys d).Nodup → items.foldlM f acc' = .ok (acc' ++ d)) :
    (run ++ items).foldlM f acc = .ok (acc ++ (k, v) :: d) := by
  rw [List.foldlM_append, hrun]
  show items.foldlM f (acc ++ [(k, v)]) = _
  rw [hrest _ (fresh_snoc k v acc d hfresh hnd) (List.nodup_cons.mp hnd).2, List.append_assoc]
  rfl

theorem fold_entries (S Rp : List Str) : (items : List R) → (d : Fields) → EntriesOf S Rp items d →
    ∀ (acc : Fields), (∀ kv ∈ d, kv.1 ∉ keys acc) → (keys d).Nodup → items.foldlM (dItem S Rp) acc = .ok (acc ++ d)
  | _, _, .nil, acc, _, _ => by rw [List.append_nil]; rfl
  | _, _, .rep k _ _ items d hne hR h1 h2 hrun hrest, acc, hfresh, hnd => by
    cases hrun with
    | nil => exact absurd rfl hne
    | cons kvs v p run vs hparts hrun =>
      have hnew : k ∉ keys acc := hfresh _ List.mem_cons_self
      have hstep : dItem S Rp acc (.adict kvs) = .ok (acc ++ [(k, .list [v])]) := by
        simp only [dItem, hparts, dataStep_repeated hR h1 h2, appendTo_fresh _ _ _ hnew]
      exact fold_after (run := .adict kvs :: run) hfresh hnd
        ((foldlM_cons_ok _ hstep).trans (fold_rep S Rp k hR h1 h2 run vs hrun acc [v] hnew))
        (fold_entries S Rp items d hrest)
  | _, _, .line kvs k v p items d hparts hk hrest, acc, hfresh, hnd => by
    have hstep : dItem S Rp acc (.adict kvs) = .ok (acc ++ [(k, v)]) := by
      simp only [dItem, hparts, dataStep_fresh hk.1 hk.2 v (hfresh _ List.mem_cons_self)]
    exact fold_after (run := [.adict kvs]) hfresh hnd (foldlM_cons_ok _ hstep) (fold_entries S Rp items d hrest)
  | _, _, .single k sub items d hty hS hu hrest, acc, hfresh, hnd => by
    have hstep : dItem S Rp acc (.cdict sub) = .ok (acc ++ [(k, .dict sub)]) := by
      simp only [dItem, blockItem_typed hty hu, hS, if_true, setKey_of_not_mem k _ acc (hfresh _ List.mem_cons_self)]
    exact fold_after (run := [.cdict sub]) hfresh hnd (foldlM_cons_ok _ hstep) (fold_entries S Rp items d hrest)
  | _, _, .many t subs items d hne hall hS hu hrest, acc, hfresh, hnd => by
    cases subs with
    | nil => exact absurd rfl hne
    | cons sub subs =>
      have hnew : plural t ∉ keys acc := hfresh _ List.mem_cons_self
      have hstep : dItem S Rp acc (.cdict sub) = .ok (acc ++ [(plural t, .list [.dict sub])]) := by
        simp only [dItem, blockItem_typed (hall sub (by simp)) hu, hS, appendTo_fresh _ _ _ hnew]; rfl
      exact fold_after (run := (sub :: subs).map .cdict) hfresh hnd
        ((foldlM_cons_ok _ hstep).trans (fold_blocks_d S Rp t hS hu subs (fun x hx => hall x (by simp [hx])) acc _ hnew))
        (fold_entries S Rp items d hrest)

/-- **C01_level_roundtrip** — one level of a document, plain load: when `composite` receives, in dictionary order, a keyword
line for every simple entry, the block of every singleton entry and the blocks of every list entry one after the other
(what the printer writes for a dictionary `__type__ :: d`, with the children already read back), it rebuilds exactly
`__type__ :: d` — for every number and mixture of entries, given distinct keys -/
theorem C01_level_roundtrip (cfg : Cfg) (S Rp : List Str) (hp : cfg.pos = false) (hc : cfg.com = false)
    (keyTok : Tok) (name : Str) (hname : valLower keyTok = .ok name)
    (items : List R) (d : Fields) (he : EntriesOf S Rp items d)
    (hty : ∀ kv ∈ d, kv.1 ≠ s%"__type__") (hnd : (keys d).Nodup) :
    compositeBody cfg S Rp keyTok items = .ok (.cdict ((s%"__type__", .str name) :: d)) :=
  compositeBody_plain hp hc hname (fold_entries S Rp items d he _ (by simpa using hty) hnd)

theorem entries_of_lines (S : List Str) {Rp : List Str} : {items : List R} → {pairs : List (Str × J)} → LinesOf items pairs →
    plainKeys Rp pairs → EntriesOf S Rp items pairs
  | _, _, .nil, _ => .nil
  | _, _, .cons kvs k v p items pairs hparts hrest, hplain =>
    .line kvs k v p items pairs hparts ⟨(hplain (k, v) (by simp)).1, (hplain (k, v) (by simp)).2.2⟩
      (entries_of_lines S hrest fun kv h => hplain kv (by simp [h]))

/-- **C01_block_of_lines** — a block whose body is a run of keyword lines with distinct plain keywords (plain load): the
dictionary `composite` builds is `__type__` followed by exactly the (keyword, value) pairs the lines yield, in order —
nothing dropped, invented, merged or re-ordered, for every number of lines -/
theorem C01_block_of_lines (cfg : Cfg) (S Rp : List Str) (hp : cfg.pos = false) (hc : cfg.com = false)
    (keyTok : Tok) (name : Str) (hname : valLower keyTok = .ok name)
    (items : List R) (pairs : List (Str × J)) (hl : LinesOf items pairs) (hplain : plainKeys Rp pairs)
    (hty : ∀ kv ∈ pairs, kv.1 ≠ s%"__type__") (hnd : (pairs.map Prod.fst).Nodup) :
    compositeBody cfg S Rp keyTok items = .ok (.cdict ((s%"__type__", .str name) :: pairs)) :=
  C01_level_roundtrip cfg S Rp hp hc keyTok name hname items pairs (entries_of_lines S hl hplain) hty hnd

/-- **C01_tree_step** — the inductive step of the whole-document round trip, on real tree shapes: if the children of a block's
tree are transformed (bottom-up, `mainTL`) into items that are, in dictionary order, the entries of `d`, then the block's
tree is transformed into exactly `__type__ :: d`. Applied level by level from the leaves (`C01_line_*`, `C01_kv_block`) it
gives `transform(tree of the printed text of D) = D` for every well-formed dictionary `D` of any depth and width. -/
theorem C01_tree_step (cfg : Cfg) (hp : cfg.pos = false) (hc : cfg.com = false) (key : Tok) (name : Str)
    (hname : valLower key = .ok name) (children items : List R) (d : Fields)
    (hch : mainTL cfg children = .ok items)
    (he : EntriesOf Gen.singletonNames Gen.repeatedKeys items d)
    (hty : ∀ kv ∈ d, kv.1 ≠ s%"__type__") (hnd : (keys d).Nodup) :
    mainT cfg (blockTree key children) = .ok (.cdict ((s%"__type__", .str name) :: d)) := by
  rw [blockTree, mainT_tree_ok _ _ (mainTL_cons_ok ((mainT_rule cfg _ key).trans (callback_type cfg none _))
    (mainTL_cons_ok ((mainT_tree_ok _ _ hch).trans (callback_body cfg none items)) rfl)), callback_composite]
  exact C01_level_roundtrip cfg _ _ hp hc key name hname items d he hty hnd

mutual
/-- the class of block trees covered by the composed theorem: a block whose children are read (leaves by whatever
`mainT` makes of them, nested blocks recursively) into the entries of its dictionary, written in dictionary order -/
inductive WellRead (cfg : Cfg) : R → Fields → Prop
  | block (key : Tok) (name : Str) (children items : List R) (d : Fields) :
      valLower key = .ok name → ChildrenRead cfg children items →
      EntriesOf Gen.singletonNames Gen.repeatedKeys items d →
      (∀ kv ∈ d, kv.1 ≠ s%"__type__") → (keys d).Nodup →
      WellRead cfg (blockTree key children) ((s%"__type__", .str name) :: d)
inductive ChildrenRead (cfg : Cfg) : List R → List R → Prop
  | nil : ChildrenRead cfg [] []
  | leaf (c item : R) (rest ritems : List R) :
      mainT cfg c = .ok item → ChildrenRead cfg rest ritems → ChildrenRead cfg (c :: rest) (item :: ritems)
  | node (c : R) (sub : Fields) (rest ritems : List R) :
      WellRead cfg c sub → ChildrenRead cfg rest ritems → ChildrenRead cfg (c :: rest) (.cdict sub :: ritems)
end

mutual
/-- **C01_document_roundtrip** — for every block tree of the class `WellRead` (any depth, any width, any mixture of keyword
lines, singleton blocks and runs of repeatable blocks at every level), the transformer returns exactly the dictionary the
tree was written from. By rule induction on the derivation; no bound on depth or size. -/
theorem C01_document_roundtrip (cfg : Cfg) (hp : cfg.pos = false) (hc : cfg.com = false) :
    ∀ {t : R} {d : Fields}, WellRead cfg t d → mainT cfg t = .ok (.cdict d)
  | _, _, .block key name children items d hname hch he hty hnd =>
    C01_tree_step cfg hp hc key name hname children items d (children_read cfg hp hc hch) he hty hnd
theorem children_read (cfg : Cfg) (hp : cfg.pos = false) (hc : cfg.com = false) :
    ∀ {cs items : List R}, ChildrenRead cfg cs items → mainTL cfg cs = .ok items
  | _, _, .nil => rfl
  | _, _, .leaf c item rest ritems h hr => mainTL_cons_ok h (children_read cfg hp hc hr)
  | _, _, .node c sub rest ritems h hr => mainTL_cons_ok (C01_document_roundtrip cfg hp hc h) (children_read cfg hp hc hr)
end

def nameItem (text : Str) : List (Str × AV) :=
  [(s%"__position__", .j (posOf s%"NAME" (lexTok s%"DOUBLE_QUOTED_STRING" text))),
   (s%"__tokens__", .toks [lexTok s%"UNQUOTED_STRING" s%"NAME", lexTok s%"DOUBLE_QUOTED_STRING" text]),
   (lower s%"NAME", .j (stored (lexTok s%"DOUBLE_QUOTED_STRING" text)))]
def nameLine (text : Str) : R := lineTree s%"NAME" s%"string" s%"DOUBLE_QUOTED_STRING" text

theorem nameLine_read (cfg : Cfg) (text : Str) : mainT cfg (nameLine text) = .ok (.adict (nameItem text)) :=
  mainT_line cfg none _ _ _ _ rfl (by decide) ((mainT_rule cfg _ _).trans (callback_passthrough cfg _ none _ (Or.inl rfl)))
theorem nameItem_parts (text : Str) :
    attrParts (nameItem text) = .ok (s%"name", .str (cleanString text), posOf s%"NAME" (lexTok s%"DOUBLE_QUOTED_STRING" text)) :=
  attrParts_attrDict (lexTok s%"UNQUOTED_STRING" s%"NAME") _ _ _ (by decide) rfl

/-- what the `string_pair` call-back hands on for the line `"key" "value"` the printer writes -/
def pairItem (q : Char) (ty : Str) (kv : Str × Str) : R :=
  .seq false [.tok (lexTok ty (addQuotes q kv.1)), .tok (lexTok ty (addQuotes q kv.2))]

theorem pairKV_printed (q : Char) (hq : q = '"' ∨ q = '\'') (ty : Str) (kv : Str × Str)
    (hk : underscored (lower kv.1) = false) :
    pairKV (pairItem q ty kv) = .ok (lower kv.1, .str kv.2) := by
  have h1 : cleanString (addQuotes q kv.1) = kv.1 := C02_quotes_outer_only q hq kv.1
  have h2 : cleanString (addQuotes q kv.2) = kv.2 := C02_quotes_outer_only q hq kv.2
  rw [pairItem, C02_kv_pair _ _ (addQuotes q kv.1) (addQuotes q kv.2) rfl rfl (by rw [h1]; exact hk), h1, h2]

theorem kvPairs_printed (q : Char) (hq : q = '"' ∨ q = '\'') (ty : Str) :
    (d : List (Str × Str)) → (∀ kv ∈ d, underscored (lower kv.1) = false) →
    kvPairs (d.map (pairItem q ty)) = .ok (d.map fun kv => (lower kv.1, J.str kv.2))
  | [], _ => rfl
  | kv :: r, h => by
    simp only [List.map_cons, kvPairs, pairKV_printed q hq ty kv (h kv (by simp)),
      kvPairs_printed q hq ty r (fun x hx => h x (by simp [hx]))]

/-- **C01_kv_block** — a METADATA / VALIDATION / VALUES / CONNECTIONOPTIONS block as the printer writes it (every key and
every value between the output quotes), for ANY number of pairs with distinct lower-case keys and ANY value strings: the
block read back is exactly the pairs, in order, values untouched, followed by `__type__` (a key/value block gets its type tag
last) -/
theorem C01_kv_block (cfg : Cfg) (hp : cfg.pos = false) (q : Char) (hq : q = '"' ∨ q = '\'') (ty name kwText : Str)
    (hname : lower kwText = name) (d : List (Str × Str))
    (hlow : ∀ kv ∈ d, lower kv.1 = kv.1) (hu : ∀ kv ∈ d, underscored kv.1 = false) (hnd : (d.map Prod.fst).Nodup)
    (hty : ∀ kv ∈ d, kv.1 ≠ s%"__type__") :
    valuePairs cfg name (.tok (lexTok ty kwText) :: (d.map (pairItem q ty) ++ [.tok (lexTok ty s%"END")])) =
      .ok (.cdict ((d.map fun kv => (kv.1, J.str kv.2)) ++ [(s%"__type__", .str name)])) := by
  have hkv := kvPairs_printed q hq ty d (fun kv h => by rw [hlow kv h]; exact hu kv h)
  have hpairs : (d.map fun kv => (lower kv.1, J.str kv.2)) = d.map fun kv => (kv.1, J.str kv.2) := by
    apply List.map_congr_left
    intro kv h
    rw [hlow kv h]
  have hd := foldl_setKey_lower (d.map fun kv => (kv.1, J.str kv.2))
    (by intro kv h; obtain ⟨x, hx, rfl⟩ := List.mem_map.mp h; exact hlow x hx)
    (by simpa [keys, List.map_map, Function.comp_def] using hnd) [] (by simp)
  have hnt : s%"__type__" ∉ keys (d.map fun kv => (kv.1, J.str kv.2)) := by
    simp only [keys, List.map_map, Function.comp_def, List.mem_map, not_exists, not_and]
    intro x hx e
    exact hty x hx e
  have hcc := checkComposite_ok name (lexTok ty kwText) (lexTok ty s%"END") (d.map (pairItem q ty))
    (by rw [← hname]; rfl) rfl (by intro x hx; obtain ⟨kv, _, rfl⟩ := List.mem_map.mp hx; exact ⟨_, _, rfl⟩)
  unfold valuePairs
  rw [hcc]
  simp only [valLower, lexTok, hname, hkv, hp, Bool.false_eq_true, if_false, hpairs, kvDict, hd, List.nil_append]
  rw [setKey_of_not_mem _ _ _ hnt]

/-- the hypotheses are met: NAME "a b" in a LAYER, any spelling of the keyword -/
example : lower s%"NaMe" = s%"name" ∧ underscored s%"name" = false ∧ ('"' ∉ s%"a b") := by decide

end Mappy.RoundTrip
