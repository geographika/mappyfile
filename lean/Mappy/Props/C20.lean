/-
  C20 — the front ends, as far as Model/Cli.lean models them: the exit status of `mappyfile validate` (problems counted
  over all files, capped at 255, what the OS reports of it), the lines echoed per file, the options `mappyfile format`
  passes on, the three writers over one printer call, and the UTF-8 round trip of Lean's codec.  File I/O, click and the
  OS are parameters of the model, not part of it.
-/
import Mappy.Model.Cli

namespace Mappy.Cli

theorem problems_zero_iff (outs : List Outcome) : problems outs = 0 ↔ ∀ o ∈ outs, o = .msgs 0 := by
  fun_induction problems outs with
  | case1 => simp
  | case2 r => simp
  | case3 n r ih => simp only [List.mem_cons, forall_eq_or_imp, Outcome.msgs.injEq, ← ih]; omega

/-- the status the shell sees: `min` keeps the code below 256, so the OS's `% 256` changes nothing -/
theorem osStatus_exitCode (outs : List Outcome) : osStatus (exitCode outs) = min (problems outs) 255 := by
  unfold osStatus exitCode
  omega

/-- **C20_cli_exit_iff** — for every list of file outcomes (any number of files, any number of messages each): the
process status is 0 exactly when every matched file parsed and validated without a message -/
theorem C20_cli_exit_iff (outs : List Outcome) : osStatus (exitCode outs) = 0 ↔ ∀ o ∈ outs, o = .msgs 0 := by
  rw [osStatus_exitCode, ← problems_zero_iff]
  omega

/-- **C20_cli_exit_count** — and it equals the number of problems whenever that fits an exit status -/
theorem C20_cli_exit_count (outs : List Outcome) (h : problems outs ≤ 255) : osStatus (exitCode outs) = problems outs := by
  rw [osStatus_exitCode]
  omega

/-- more problems than fit: still non-zero -/
theorem C20_cli_exit_overflow (outs : List Outcome) (h : 255 < problems outs) : osStatus (exitCode outs) = 255 := by
  rw [osStatus_exitCode]
  omega

/-- the accumulation is over all files: the order of the files does not matter and no file's count is lost -/
theorem C20_problems_append (a b : List Outcome) : problems (a ++ b) = problems a + problems b := by
  fun_induction problems a with
  | case1 => simp
  | case2 r ih | case3 n r ih => simp only [List.cons_append, problems, ih]; omega

theorem fileLines_ge (o : Outcome) : 1 ≤ fileLines o := by
  cases o with
  | parseFail => simp [fileLines]
  | msgs n => cases n <;> simp [fileLines]

/-- **C20_one_line_per_message** — a parsed file with n > 0 messages echoes exactly n lines -/
theorem C20_one_line_per_message (n : Nat) (h : 0 < n) : fileLines (.msgs n) = n := by
  cases n with
  | zero => omega
  | succ k => rfl

/-- **C20_writers_share_pprint** — save, dump and dumps hand the same characters to their sinks -/
theorem C20_writers_share_pprint (o : Printer.Opts) (T : List (Str × List (Str × CellProps))) (d : J) (text : Str)
    (h : dumps o T d = .ok text) :
    dump o T d id = .ok text ∧ save o T d id = .ok text := by
  simp [dumps] at h
  simp [dump, save, h, Except.map]

/-- **C20_format_options** — `mappyfile format` changes only indent, spacer, quote and newline; everything else is
the printer's default, for every argument value -/
theorem C20_format_options (indent : Nat) (spacer : Str) (quote : Char) (newline : Str) :
    (formatOpts indent spacer quote newline).endComment = false ∧
    (formatOpts indent spacer quote newline).align = false ∧
    (formatOpts indent spacer quote newline).sepComplex = false ∧
    (formatOpts indent spacer quote newline).indent = indent ∧
    (formatOpts indent spacer quote newline).spacer = spacer ∧
    (formatOpts indent spacer quote newline).quote = quote ∧
    (formatOpts indent spacer quote newline).newline = newline := by
  simp [formatOpts]

/-- **C20_utf8_roundtrip** — writing any Unicode string as UTF-8 and reading it back gives the same string (Lean
core's UTF-8 codec; Python's codec is the trusted counterpart) -/
theorem C20_utf8_roundtrip (s : Str) : s.utf8Encode.utf8Decode? = some s.toArray := List.utf8Decode?_utf8Encode

/-- counts add up across files and a failed parse counts one; 256 messages are reported as 255; all clean is 0 -/
example : osStatus (exitCode [.msgs 2, .parseFail, .msgs 0, .msgs 3]) = 6 ∧ osStatus (exitCode [.msgs 256]) = 255 ∧
    osStatus (exitCode [.msgs 0, .msgs 0]) = 0 := by decide

end Mappy.Cli
