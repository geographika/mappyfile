/-
  C09 — version classes: the version filter looks at the version only through comparisons with the bounds written in the
  schemas.  Two versions on the same side of every bound get the same verdict for every object and alternative, hence the
  same pruned `properties` — for EVERY pair of versions, not for sampled points.
-/
import Mappy.Lemmas.VersionStore
import Mappy.Lemmas.JInd
import Mappy.Props.C09
import Mappy.Gen.Schemas
import Mappy.Model.FolderBounds

namespace Mappy.Versioning

def SameSide (v w b : Int) : Prop := (v < b ↔ w < b) ∧ (b < v ↔ b < w)

def Agree (B : List Int) (v w : Int) : Prop := ∀ b ∈ B, SameSide v w b

/-- the bounds of an object's own `metadata` entry (the defaults 0 and 1000, in thousandths, included) are listed in `B` -/
def metaIn (B : List Int) (kvs : Fields) : Bool :=
  match lookup metaKey kvs with
  | some (.dict md) => B.contains (minOf md) && B.contains (maxOf md)
  | _ => true

mutual
def boundsIn (B : List Int) : J → Bool
  | .dict kvs => (refOfFields kvs).isSome || (metaIn B kvs && boundsInF B kvs)
  | .list xs => boundsInL B xs
  | _ => true
def boundsInF (B : List Int) : Fields → Bool
  | [] => true
  | (_, x) :: r => boundsIn B x && boundsInF B r
def boundsInL (B : List Int) : List J → Bool
  | [] => true
  | x :: r => boundsIn B x && boundsInL B r
end

/-- **C09_valid_by_side** — the range test depends on the version only through the side of the two bounds it is on -/
theorem C09_valid_by_side (B : List Int) (v w : Int) (hA : Agree B v w) (kvs : Fields) (h : metaIn B kvs = true) :
    isValid v kvs = isValid w kvs := by
  unfold isValid
  unfold metaIn at h
  split
  · rename_i md hmd
    simp only [hmd, Bool.and_eq_true, List.contains_iff_mem] at h
    have h1 := hA _ h.1
    have h2 := hA _ h.2
    have e1 : decide (v < minOf md) = decide (w < minOf md) := by simp only [decide_eq_decide]; exact h1.1
    have e2 : decide (v > maxOf md) = decide (w > maxOf md) := by simp only [decide_eq_decide]; exact h2.2
    rw [e1, e2]
  · rfl

/-- two versions on the same side of every bound, and two judges of references that agree on the references of the dict:
the same local filter, and the same trace -/
theorem l_agree (B : List Int) (v w : Int) (hA : Agree B v w) (rv rv' : Str → Bool) :
    (∀ d, boundsInF B d = true → (∀ u ∈ frefsF d, rv u = rv' u) →
      lFields v rv d = lFields w rv' d ∧ trF v rv d = trF w rv' d) ∧
    (∀ xs, boundsInL B xs = true → (∀ u ∈ frefsL xs, rv u = rv' u) →
      lList v rv xs = lList w rv' xs ∧ trL v rv xs = trL w rv' xs) := by
  refine walk_induct ?_ ?_ ?_ ?_ ?_ ?_ ?_
  · intro _ _; simp only [lFields, trF_nil, and_self]
  · intro k kvs r ihk ihr h hf
    simp only [boundsInF, boundsIn, Bool.and_eq_true, Bool.or_eq_true] at h
    simp only [frefsF, List.mem_append] at hf
    obtain ⟨e1, e2⟩ := ihr h.2 fun u hu => hf u (Or.inr hu)
    cases hr : refOfFields kvs with
    | some u =>
      simp only [hr, List.mem_singleton] at hf
      simp only [lFields, trF_dict, hr, hf u (Or.inl rfl), e1, e2, and_self]
    | none =>
      simp only [hr] at hf
      have hk := h.1.resolve_left (by simp [hr])
      obtain ⟨e3, e4⟩ := ihk hk.2 fun u hu => hf u (Or.inl hu)
      simp only [lFields, trF_dict, hr, C09_valid_by_side B v w hA kvs hk.1, e1, e2, e3, e4, and_self]
  · intro k xs r ihx ihr h hf
    simp only [boundsInF, boundsIn, Bool.and_eq_true] at h
    simp only [frefsF, List.mem_append] at hf
    obtain ⟨e1, e2⟩ := ihr h.2 fun u hu => hf u (Or.inr hu)
    obtain ⟨e3, e4⟩ := ihx h.1 fun u hu => hf u (Or.inl hu)
    simp only [lFields, trF_list, e1, e2, e3, e4, and_self]
  · intro k x r hd hl ihr h hf
    simp only [boundsInF, Bool.and_eq_true] at h
    rw [frefsF_leaf hd hl] at hf
    simp only [lFields_leaf _ _ hd hl, trF_leaf _ _ hd hl, ihr h.2 hf, and_self]
  · intro _ _; simp only [lList, trL_nil, and_self]
  · intro kvs es ihk ihe h hf
    simp only [boundsInL, boundsIn, Bool.and_eq_true, Bool.or_eq_true] at h
    simp only [frefsL, List.mem_append] at hf
    obtain ⟨e1, e2⟩ := ihe h.2 fun u hu => hf u (Or.inr hu)
    cases hr : refOfFields kvs with
    | some u =>
      simp only [hr, List.mem_singleton] at hf
      simp only [lList, trL_dict, hr, hf u (Or.inl rfl), e1, e2, and_self]
    | none =>
      simp only [hr] at hf
      have hk := h.1.resolve_left (by simp [hr])
      obtain ⟨e3, e4⟩ := ihk hk.2 fun u hu => hf u (Or.inl hu)
      simp only [lList, trL_dict, hr, C09_valid_by_side B v w hA kvs hk.1, e1, e2, e3, e4, and_self]
  · intro x es hd ihe h hf
    simp only [boundsInL, Bool.and_eq_true] at h
    rw [frefsL_other hd] at hf
    simp only [lList_other _ _ hd, trL_other _ _ hd, ihe h.2 hf, and_self]

theorem lFields_agree (B : List Int) (v w : Int) (hA : Agree B v w) (rv : Str → Bool) :
    (d : Fields) → boundsInF B d = true → lFields v rv d = lFields w rv d :=
  fun d h => ((l_agree B v w hA rv rv).1 d h fun _ _ => rfl).1

theorem lList_agree (B : List Int) (v w : Int) (hA : Agree B v w) (rv : Str → Bool) :
    (xs : List J) → boundsInL B xs = true → lList v rv xs = lList w rv xs :=
  fun xs h => ((l_agree B v w hA rv rv).2 xs h fun _ _ => rfl).1

/-- **C09_version_classes** — for EVERY well-formed schema folder, EVERY two versions in range that lie on the same side of
every bound in `B`, every budget and every `properties` dict whose inline objects take their bounds from `B`: the version
filter returns the same pruned dict.  (What it returns for one representative of a class it returns for the whole class;
the classes are cut by the bounds written in the schemas and nothing else.) -/
theorem C09_version_classes (B : List Int) (v w : Int) (hv : inRange v) (hw : inRange w) (hA : Agree B v w)
    (files : Store) (hwf : ∀ f ∈ files, wf f.2 = true)
    (hB : ∀ u doc, lookup u files = some (.dict doc) → metaIn B doc = true)
    (n : Nat) (d : Fields) (hd : boundsInF B d = true) :
    (fFields v (follow v n) files d).1 = (fFields w (follow w n) files d).1 := by
  -- references are judged alike: by the range test on the document referred to
  have hrv : refValid w files = refValid v files := by
    funext u
    unfold refValid
    split
    · rename_i doc hl; exact (C09_valid_by_side B v w hA doc (hB u doc hl)).symm
    · rfl
  have h1 := C09_walk_is_local_filter v hv n files d (refValid v files) (inv_files v files hwf)
  have h2 := C09_walk_is_local_filter w hw n files d (refValid v files) (hrv ▸ inv_files w files hwf)
  rw [h1, h2]
  exact lFields_agree B v w hA (refValid v files) d hd

/-- **C09_files_bounds_in** — every schema file of the regenerated folder is a plain object (no reference at its top) and
every version bound the filter can meet in it — at any depth — is one of the folder's bounds -/
theorem C09_files_bounds_in : ∀ f ∈ Gen.files,
    (match f.2 with
     | .dict doc => (refOfFields doc).isNone && metaIn allBounds doc && boundsInF allBounds doc
     | _ => false) = true := by decide +kernel

theorem files_bounds {u : Str} {doc : Fields} (hl : lookup u Gen.files = some (.dict doc)) :
    metaIn allBounds doc = true ∧ boundsInF allBounds doc = true := by
  have := C09_files_bounds_in (u, .dict doc) (mem_of_lookup Gen.files u _ hl)
  simp only [Bool.and_eq_true] at this
  exact ⟨this.1.2, this.2⟩

/-- **C09_version_classes_files** — on the schema folder of this tree, for EVERY two versions in range on the same side of
every bound written in the folder (and of the defaults 0 and 1000, in thousandths), every schema file and every budget:
`get_versioned_properties` returns the same pruned `properties`.  Nothing but the written bounds separates versions. -/
theorem C09_version_classes_files (v w : Int) (hv : inRange v) (hw : inRange w) (hA : Agree allBounds v w)
    (n : Nat) (name : Str) (doc props : Fields) (hl : lookup name Gen.files = some (.dict doc))
    (hp : lookup propsKey doc = some (.dict props)) (hnr : refOfFields props = none) :
    (fFields v (follow v n) Gen.files props).1 = (fFields w (follow w n) Gen.files props).1 := by
  have hb := mem_of_all (P := boundsIn allBounds) (fun _ _ _ => rfl) (files_bounds hl).2 (mem_of_lookup _ _ _ hp)
  simp only [boundsIn, hnr, Option.isSome_none, Bool.false_or, Bool.and_eq_true] at hb
  exact C09_version_classes allBounds v w hv hw hA Gen.files C09_files_wf (fun _ _ h => (files_bounds h).1) n props hb.2

def rep (B : List Int) (v : Int) : Int :=
  if B.contains v then v
  else match B.filter (· ≤ v) with
    | [] => B.foldl min v - 1
    | s :: r => r.foldl max s + 1

theorem foldl_max_ge (a : Int) : (l : List Int) → a ≤ l.foldl max a ∧ ∀ x ∈ l, x ≤ l.foldl max a
  | [] => by simp
  | y :: r => by
    have ih := foldl_max_ge (max a y) r
    simp only [List.foldl_cons]
    refine ⟨Int.le_trans (Int.le_max_left a y) ih.1, ?_⟩
    intro x hx
    rcases List.mem_cons.mp hx with rfl | hx
    · exact Int.le_trans (Int.le_max_right a x) ih.1
    · exact ih.2 x hx

theorem foldl_max_mem (a : Int) : (l : List Int) → l.foldl max a ∈ a :: l
  | [] => by simp
  | y :: r => by
    simp only [List.foldl_cons]
    rcases List.mem_cons.1 (foldl_max_mem (max a y) r) with h | h
    · rw [h]
      rcases Int.le_total a y with hle | hle
      · rw [Int.max_eq_right hle]; simp
      · rw [Int.max_eq_left hle]; simp
    · exact List.mem_cons_of_mem _ (List.mem_cons_of_mem _ h)

theorem foldl_min_le (a : Int) : (l : List Int) → l.foldl min a ≤ a ∧ ∀ x ∈ l, l.foldl min a ≤ x
  | [] => by simp
  | y :: r => by
    have ih := foldl_min_le (min a y) r
    simp only [List.foldl_cons]
    refine ⟨Int.le_trans ih.1 (Int.min_le_left a y), ?_⟩
    intro x hx
    rcases List.mem_cons.mp hx with rfl | hx
    · exact Int.le_trans ih.1 (Int.min_le_right a x)
    · exact ih.2 x hx

/-- **C09_representative** — every version is in the class of its representative -/
theorem C09_representative (B : List Int) (v : Int) : Agree B v (rep B v) := by
  intro b hb
  fun_cases rep B v with
  | case1 hc => exact ⟨Iff.rfl, Iff.rfl⟩
  | case2 hc hs =>
    have hvb : v ≠ b := fun e => hc (e ▸ List.contains_iff_mem.mpr hb)
    have hgt : ¬ b ≤ v := fun hle => by
      have : b ∈ B.filter (· ≤ v) := List.mem_filter.mpr ⟨hb, by simpa using hle⟩
      rw [hs] at this
      cases this
    have hmin := (foldl_min_le v B).2 b hb
    have hmin2 := (foldl_min_le v B).1
    -- the representative is below `v`, which is below `b`
    simp only [SameSide]
    omega
  | case3 hc s r hs =>
    have hvb : v ≠ b := fun e => hc (e ▸ List.contains_iff_mem.mpr hb)
    have hall : ∀ x ∈ s :: r, x ∈ B ∧ x ≤ v := fun x hx => by
      have := List.mem_filter.mp (hs ▸ hx)
      exact ⟨this.1, by simpa using this.2⟩
    have hge := foldl_max_ge s r
    have hmle := (hall _ (foldl_max_mem s r)).2
    have hmB := (hall _ (foldl_max_mem s r)).1
    have hmne : r.foldl max s ≠ v := fun e => hc (e ▸ List.contains_iff_mem.mpr hmB)
    by_cases hbv : b ≤ v
    · have hbin : b ∈ s :: r := hs ▸ List.mem_filter.mpr ⟨hb, by simpa using hbv⟩
      have hbm : b ≤ r.foldl max s := by
        rcases List.mem_cons.mp hbin with rfl | h
        · exact hge.1
        · exact hge.2 b h
      -- `b ≤ max < max + 1` and `b < v`, as `v` is no bound
      simp only [SameSide]
      omega
    · -- `max + 1 ≤ v < b`
      simp only [SameSide]
      omega

theorem rep_mem (B : List Int) (v : Int) :
    rep B v ∈ B ∨ (∃ b ∈ B, rep B v = b + 1) ∨ (∀ b ∈ B, rep B v < b) := by
  fun_cases rep B v with
  | case1 hc => exact .inl (List.contains_iff_mem.mp hc)
  | case2 hc hs =>
    refine .inr (.inr fun b hb => ?_)
    have := (foldl_min_le v B).2 b hb
    omega
  | case3 hc s r hs => exact .inr (.inl ⟨_, (List.mem_filter.mp (hs ▸ foldl_max_mem s r)).1, rfl⟩)

def classPoints (B : List Int) : List Int := (B.foldl min 0 - 1) :: (B ++ B.map (· + 1))

/-- **C09_points_exhaustive** — for EVERY list of bounds and EVERY version there is a point among the finitely many
`classPoints` that lies on the same side of every bound: what holds at those points holds, as far as the filter can tell,
at every version -/
theorem C09_points_exhaustive (B : List Int) (v : Int) : ∃ r ∈ classPoints B, Agree B v r := by
  rcases rep_mem B v with h | ⟨b, hb, h⟩ | h
  · exact ⟨rep B v, by simp [classPoints, h], C09_representative B v⟩
  · refine ⟨rep B v, ?_, C09_representative B v⟩
    simp only [classPoints, List.mem_cons, List.mem_append, List.mem_map]
    exact Or.inr (Or.inr ⟨b, hb, h.symm⟩)
  · refine ⟨B.foldl min 0 - 1, by simp [classPoints], ?_⟩
    intro b hb
    have hA := C09_representative B v b hb
    have hlt := h b hb
    have hmin := (foldl_min_le 0 B).2 b hb
    have hv : v < b := hA.1.mpr hlt
    -- the point and `v` are both below `b`
    simp only [SameSide]
    omega

/-- the regenerated folder: 16 bounds (14 written, 2 defaults), 33 points -/
example : (classPoints allBounds).length = 33 := by decide +kernel

instance (B : List Int) (v w : Int) : Decidable (Agree B v w) := by unfold Agree SameSide; infer_instance
/-- non-vacuity: 7.65 and 7.7 lie between the same written bounds, 7.6 and 7.65 do not (7.6 is a bound) -/
example : Agree allBounds 7650 7700 ∧ ¬ Agree allBounds 7600 7650 := by decide +kernel
end Mappy.Versioning
