/-
  C16 — pretty-printer layout contract.  Property theorems about Model/Printer.lean (tied to pprint.py by the
  `pp` correspondence: exact output strings).  `check` (Lemmas/Layout.lean) is an independent reader of
  the structured lines; `renderLine`/`render` are the thin last step to text.
-/
import Mappy.Lemmas.Layout
import Mappy.Lemmas.PrinterRel
import Mappy.Gen.Props

namespace Mappy.Printer

theorem bal_closed (o : Opts) : Closed o o fun n a _ => Bal o n a where
  nil := Bal.nil _ _
  attr h := Bal.append (a := [_]) (Bal.attr o _ _ rfl rfl) h
  comments ht _ h := Bal.append (Bal.comments o _ _ ht) h
  append ha hb := Bal.append ha hb
  block hb := Bal.block o _ _ _ hb

theorem Bal.of_lift {o : Opts} {n : Nat} {x : Res (List Line)} {ls : List Line}
    (h : Lift (fun n a _ => Bal o n a) n x x) (hx : x = .ok ls) : Bal o n ls := by
  subst hx
  exact Lift.ok_iff.mp h

theorem fmt_bal (o : Opts) (T : Table) : (j : J) → (level : Nat) → (ls : List Line) →
    fmt o T level j = .ok ls → Bal o level ls :=
  fun j level _ => .of_lift ((fmt_lift (bal_closed o) rfl T).1 j level)
theorem fmtItems_bal (o : Opts) (T : Table) : (f : Fields) → (level : Nat) → (ty : Option Str) →
    (c : Fields) → (al : Nat) → (ls : List Line) → fmtItems o T level ty c al f = .ok ls → Bal o (level + 1) ls :=
  fun f level ty c al _ => .of_lift ((fmt_lift (bal_closed o) rfl T).2.1 f level ty c al al)
theorem fmtList_bal (o : Opts) (T : Table) : (xs : List J) → (level : Nat) → (ls : List Line) →
    fmtList o T level xs = .ok ls → Bal o level ls :=
  fun xs level _ => .of_lift ((fmt_lift (bal_closed o) rfl T).2.2 xs level)

theorem C16_well_nested_at (o : Opts) (T : Table) (j : J) (level : Nat) (ls : List Line)
    (h : fmt o T level j = .ok ls) (st : List (Nat × Str)) (hs : st.length = level) :
    check o st ls = some st := by
  simpa [check] using fmt_bal o T j level ls h st [] hs

/-- C16 (nesting clause): for every dictionary and every option record, if printing succeeds then the
independent layout reader accepts the lines: each block opener and keyword line is indented by
(nesting depth × indent) spacers, each opened block is closed by an END at the opener's indentation,
and with `end_comment` that END carries `# ` and the block's type.  Root key/value blocks
(METADATA/VALIDATION/CONNECTIONOPTIONS given as the root) are printed one level in by the code and are
outside the property's quantifier (the 19 block types); they are balanced at depth 1. -/
theorem C16_well_nested (o : Opts) (T : Table) (j : J) (ls : List Line) (h : fmt o T 0 j = .ok ls) :
    check o [] ls = some [] :=
  C16_well_nested_at o T j 0 ls h [] rfl

/-- C16 (line-break and indentation clause): the text is exactly the rendered lines joined by
`newlinechar`, and every rendered line starts with `lvl × indent` copies of `spacer`. -/
theorem C16_lines_joined (o : Opts) (T : Table) (c : J) (s : Str) (h : pprint o T c = .ok s) :
    ∃ ls, pprintLines o T c = .ok ls ∧ s = joinWith o.newline (ls.map (renderLine o)) := by
  unfold pprint at h
  cases hl : pprintLines o T c with
  | error e => simp [hl, Except.map] at h
  | ok ls => simp [hl, Except.map] at h; exact ⟨ls, rfl, h.symm⟩

theorem C16_indent_exact (o : Opts) (l : Line) :
    renderLine o l = (List.replicate (l.lvl * o.indent) o.spacer).flatten ++ (l.key ++ List.replicate l.pad ' ' ++ l.val ++ l.cmt) := by
  have : ws o l.lvl = (List.replicate (l.lvl * o.indent) o.spacer).flatten := by
    unfold ws unit
    induction l.lvl with
    | zero => simp
    | succ n ih =>
      rw [List.replicate_succ, List.flatten_cons, ih, Nat.succ_mul, Nat.add_comm, ← List.replicate_append_replicate,
        List.flatten_append]
  simp [renderLine, this, List.append_assoc]

theorem le_maxKeyLen (f : Fields) (k : Str) (v : J) (hm : (k, v) ∈ f)
    (h1 : isMetaKey k = false) (h2 : k ∉ ignoreList) (h3 : isHiddenContainer k v = false) (h4 : isComposite v = false) :
    k.length ≤ maxKeyLen f := by
  fun_induction maxKeyLen f with
  | case1 => cases hm
  | case2 k' v' r hk ih =>  -- a measured key
    rcases List.mem_cons.mp hm with e | hm
    · cases e; exact Nat.le_max_left ..
    · exact Nat.le_trans (ih hm) (Nat.le_max_right ..)
  | case3 k' v' r hk ih =>  -- a key left out
    rcases List.mem_cons.mp hm with e | hm
    · cases e; simp [h1, h2, h3, h4] at hk
    · exact ih hm

theorem lt_computeAligned (o : Opts) (m : Nat) : m < computeAligned o m := by
  unfold computeAligned
  have hi : 0 < max 1 o.indent := by omega
  generalize max 1 o.indent = i at hi
  have := Nat.div_add_mod m i
  have := Nat.mod_lt m hi
  rw [Nat.add_mul, Nat.one_mul, Nat.mul_comm]
  omega

/-- C16 (alignment clause): with `align_values`, the value of every simple keyword of one object starts
in one column — `computeAligned (longest such keyword)`, the first multiple of `indent` past it — and
at least one blank separates keyword and value. -/
theorem C16_aligned_column (o : Opts) (T : Table) (f : Fields) (level : Nat) (ty attr : Str) (v : J) (c : Fields) (l : Line)
    (ha : o.align = true) (hm : (attr, v) ∈ f)
    (h1 : isMetaKey attr = false) (h2 : attr ∉ ignoreList) (h3 : isHiddenContainer attr v = false) (h4 : isComposite v = false)
    (hl : attrLine o T ty attr v level (alignedOf o f) c = .ok l) :
    l.key.length + l.pad = computeAligned o (maxKeyLen f) ∧ 1 ≤ l.pad := by
  obtain ⟨_, _, _, _, _, _, rfl⟩ := attrLine_ok hl
  have hlen : (upper attr).length = attr.length := by simp [upper]
  have hle := le_maxKeyLen f attr v hm h1 h2 h3 h4
  have hlt := lt_computeAligned o (maxKeyLen f)
  simp only [alignedOf, ha, if_true, padOf, hlen]
  split <;> omega

theorem le_maxKvKeyLen (d : Fields) (k : Str) (v : J) (hm : (k, v) ∈ d) (h1 : isMetaKey k = false) :
    k.length ≤ maxKvKeyLen d := by
  fun_induction maxKvKeyLen d with
  | case1 => cases hm
  | case2 k' v' r hk ih =>  -- a hidden key: not measured
    rcases List.mem_cons.mp hm with e | hm
    · cases e; rw [h1] at hk; cases hk
    · exact ih hm
  | case3 k' v' r hk ih =>  -- a visible key
    rcases List.mem_cons.mp hm with e | hm
    · cases e; exact Nat.le_max_left ..
    · exact Nat.le_trans (ih hm) (Nat.le_max_right ..)

/-- the same for the pairs of a METADATA-like block: every visible pair has its value in one column
(`process_dict` measures every visible key: the ignore list of `compute_max_key_length` is for the keywords of composites only) -/
theorem C16_aligned_kv (o : Opts) (d : Fields) (k : Str) (v : J) (hm : (k, v) ∈ d) (h1 : isMetaKey k = false) :
    let aligned := computeAligned o (maxKvKeyLen d + 2)
    let qk := Quoter.addQuotes o.quote k
    qk.length + padOf aligned qk = aligned ∧ 1 ≤ padOf aligned qk := by
  intro aligned qk
  have hle := le_maxKvKeyLen d k v hm h1
  have hlt := lt_computeAligned o (maxKvKeyLen d + 2)
  have hq : qk.length = k.length + 2 := by simp [qk, Quoter.addQuotes]
  simp only [padOf, hq]
  split <;> omega

/-- non-vacuity (test on literals): a nested document prints and passes the reader -/
example :
    let o : Opts := ⟨2, [' '], '"', ['\n'], true, true, false⟩
    let d : J := .dict [(s%"__type__", .str s%"map"), (s%"name", .str s%"x"),
      (s%"layers", .list [.dict [(s%"__type__", .str s%"layer"), (s%"metadata", .dict [(s%"a", .str s%"b")])]])]
    (fmt o Gen.props 0 d).toOption.map (fun ls => (check o [] ls, ls.length)) = some (some [], 8) := by
  decide

end Mappy.Printer
