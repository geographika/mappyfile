/-
  C19 (last sentence) — `create(type, version)`: the object carries its `__type__` first, every other entry is the
  declared default of a keyword of the (versioned) schema, nothing else (`C19_create_shape`), and the keywords are visited
  in ascending order (`sortByKey_ascending`); and over the regenerated schema folder the created object of every block
  type, at every version point, satisfies its own versioned schema apart from `required` (Draft-4 subset semantics of
  Model/Schema.lean), and so does the object a reload of its printed text gives back (`normDoc`).
-/
import Mappy.Model.Create
import Mappy.Model.Schema
import Mappy.Model.Printer
import Mappy.Model.Reload
import Mappy.Gen.Schemas
import Mappy.Gen.Patterns
import Mappy.Gen.Props
import Mappy.Props.C19
import Mappy.Model.FolderBounds
import Mappy.Lemmas.LoadClasses
import Mappy.Props.C09
import Mappy.Model.Validator
import Mappy.Lemmas.Assoc

namespace Mappy.Create
open Mappy Mappy.Versioning

theorem insertByKey_perm (kv : Str × J) : (f : Fields) → (insertByKey kv f).Perm (kv :: f)
  | [] => .refl _
  | x :: r => by
    simp only [insertByKey]
    split
    · exact .refl _
    · exact ((insertByKey_perm kv r).cons x).trans (.swap ..)

theorem sortByKey_perm : (f : Fields) → (sortByKey f).Perm f
  | [] => .refl _
  | kv :: r => (insertByKey_perm kv _).trans ((sortByKey_perm r).cons kv)

theorem length_sortByKey : (f : Fields) → (sortByKey f).length = f.length :=
  fun f => (sortByKey_perm f).length_eq

def Ascending : Fields → Prop
  | [] => True
  | x :: r => (∀ y ∈ r, strLt y.1 x.1 = false) ∧ Ascending r

/-- `strLt` is core's lexicographic `<` on the code-point lists, so its order laws are the library's -/
theorem strLt_iff : (a b : Str) → (strLt a b = true ↔ a.map Char.toNat < b.map Char.toNat)
  | [], [] => by simp [strLt]
  | [], _ :: _ => by simp [strLt]
  | _ :: _, [] => by simp [strLt]
  | a :: r, b :: s => by
    simp only [strLt, List.map_cons, List.cons_lt_cons_iff]
    split
    · simp [*]
    · split
      · simp; omega
      · have : a.toNat = b.toNat := by omega
        simp [strLt_iff r s, this]

theorem strLt_asymm (a b : Str) (h : strLt a b = true) : strLt b a = false := by
  have := List.lt_asymm ((strLt_iff a b).mp h)
  rwa [← strLt_iff, Bool.not_eq_true] at this

theorem strLt_trans_neg (a b c : Str) (h1 : strLt b a = false) (h2 : strLt c b = false) : strLt c a = false := by
  rw [← Bool.not_eq_true, strLt_iff, List.not_lt] at *
  exact List.le_trans h1 h2

theorem ascending_insert (kv : Str × J) : (f : Fields) → Ascending f → Ascending (insertByKey kv f)
  | [], _ => by simp [insertByKey, Ascending]
  | x :: r, ⟨hx, hr⟩ => by
    simp only [insertByKey]
    split
    · rename_i hlt
      refine ⟨?_, hx, hr⟩
      intro y hy
      rcases List.mem_cons.mp hy with rfl | hy
      · exact strLt_asymm _ _ hlt
      · exact strLt_trans_neg _ _ _ (strLt_asymm _ _ hlt) (hx y hy)
    · rename_i hlt
      refine ⟨?_, ascending_insert kv r hr⟩
      intro y hy
      rcases List.mem_cons.mp ((insertByKey_perm kv r).mem_iff.mp hy) with rfl | hy
      · simpa using hlt
      · exact hx y hy

/-- **the properties are visited in ascending keyword order** (Python's `sorted`) -/
theorem sortByKey_ascending : (f : Fields) → Ascending (sortByKey f)
  | [] => trivial
  | kv :: r => ascending_insert kv _ (sortByKey_ascending r)

/-- `fill` is a fold of `setKey` over the declared defaults: what every such assignment preserves holds of the result -/
theorem fill_induct (P : Fields → Prop) : (ps d : Fields) →
    (∀ d k pf dv, (k, J.dict pf) ∈ ps → lookup s%"default" pf = some dv → P d → P (setKey k dv d)) → P d → P (fill d ps)
  | [], d, _, h => h
  | (k, p) :: r, d, step, h => by
    have step' := fun d k pf dv hm => step d k pf dv (List.mem_cons_of_mem _ hm)
    cases p with
    | dict pf =>
      simp only [fill]
      cases hd : lookup s%"default" pf with
      | none => exact fill_induct P r d step' h
      | some dv => exact fill_induct P r _ step' (step d k pf dv (List.mem_cons_self ..) hd h)
    | _ => exact fill_induct P r d step' h

/-- **C19_create_shape** — for EVERY schema: the created object starts with its `__type__`, and every other entry is a
keyword of the schema's `properties` together with the default that keyword declares — nothing is invented -/
theorem C19_create_shape (schema : J) (type : Str) (d : Fields) (h : createFrom schema type = .ok d) :
    (keys d).head? = some s%"__type__" ∧
    ∀ x ∈ d, x = (s%"__type__", J.str type) ∨
      ∃ kvs props pf, schema = .dict kvs ∧ lookup propsKey kvs = some (.dict props) ∧ (x.1, J.dict pf) ∈ props ∧
        lookup s%"default" pf = some x.2 := by
  unfold createFrom at h
  split at h
  · rename_i kvs
    split at h
    · rename_i props hp
      injection h with h
      subst h
      -- both halves are invariants of the assignments `fill` makes
      constructor
      · refine fill_induct (fun d => (keys d).head? = some _) _ _ (fun d k _ dv _ _ hh => ?_) rfl
        rwa [head?_keys_setKey k dv d (by intro e; simp [e, keys] at hh)]
      · intro x
        refine fill_induct (fun d => x ∈ d → _) _ _ (fun d k pf dv hm hdv ih hx => ?_) (fun hx => .inl (List.mem_singleton.mp hx))
        rcases mem_setKey k dv x d hx with rfl | hx
        · exact .inr ⟨kvs, props, pf, rfl, hp, (sortByKey_perm props).mem_iff.mp hm, hdv⟩
        · exact ih hx
    all_goals simp at h
  · simp at h


/-- the version points at which `create` is evaluated: no version, one point below every bound, every bound, and one
thousandth above every bound — one representative of every class of versions the filter can tell apart (it only ever
compares the version with these bounds) -/
def versionPoints : List (Option Ver) :=
  none :: some ⟨(folderBounds.foldl min 0) - 1, []⟩ :: (folderBounds.map fun b => [some ⟨b, []⟩, some ⟨b + 1, []⟩]).flatten

def fuel : Nat := 40

/-- what is wrong with the created object of type `t` at version point `ver`: the errors, other than `required`, of the
object AND of the object a reload of its printed text gives back (`normDoc`, lower-cased as `validate` does) against the
versioned schema, or a marker when `create` fails -/
def createFaults (t : Str) (ver : Option Ver) : List (Str × Str) :=
  match getVersioned fuel Gen.files [] t ver with
  | .error _ => [(t, s%"<schema>")]
  | .ok (L, _) =>
    match createFrom (viewN L.store 1 L.root) t with
    | .error _ => [(t, s%"<create>")]
    | .ok d =>
      let errsOf : J → List Schema.Err := fun x =>
        (Schema.errs ⟨L.store, Gen.patterns⟩ fuel L.root (Validator.convertLowercase x) []).filter (fun e => e.2 != s%"required")
      let keyOf : List DictUtils.PathEl → Str := fun p => match p with | .key k :: _ => k | _ => s%"<object>"
      ((errsOf (.dict d) ++ errsOf (Printer.normDoc Gen.props (.dict d))).map fun e => (t, keyOf e.1))

def groupA : List Str := [s%"map"]
def groupB : List Str := [s%"layer", s%"class"]
def groupC : List Str := [s%"label", s%"style", s%"legend", s%"scalebar", s%"querymap"]
def groupD : List Str := Vocab.blockTypes.filter fun t => !(groupA ++ groupB ++ groupC).contains t

/-- On the regenerated folder `get_versioned_schema` is evaluated through `getVersionedS` of Lemmas/WalkExact.lean: the set of
documents the walk follows is computed over the references alone, and each of them is filtered where it stands, when the
evaluation looks at it (for `map` at 7.6 the walk itself follows 143 references, over the 37 files of the folder).
`C19_create_valid_A…D` rewrite `createFaults` by this equation before they evaluate. -/
theorem getVersioned_files (t : Str) (ver : Option Ver) :
    getVersioned fuel Gen.files [] t ver = getVersionedS fuel Gen.files t ver :=
  getVersionedS_eq fuel Gen.files C09_files_wf C09_files_nodup t ver

/-! ### one evaluation per class of versions

For a block type the filter can only compare the version with the bounds written in the documents its walk can reach.  Two
version points in range on the same side of all of those give the same pruned load (`pruneS_agree`), hence the same
faults: `create` is evaluated at the first point of every such class. -/

/-- the `properties` of the schema of a block type -/
def propsOf (t : Str) : Fields :=
  match lookup (fileOf t) Gen.files with
  | some (.dict kvs) => (match lookup propsKey kvs with | some (.dict props) => props | _ => [])
  | _ => []

/-- names of documents, closed under the references of their documents, from `todo` on (as far as `n` reaches: `bddB`
checks the result) -/
def reachS (files : Store) : Nat → List Str → List Str → List Str
  | 0, _, S => S
  | _, [], S => S
  | n + 1, u :: todo, S =>
    if S.contains u then reachS files n todo S else
    match lookup u files with
    | some (.dict doc) => reachS files n (frefsF doc ++ todo) (u :: S)
    | _ => reachS files n todo (u :: S)

def reachOf (t : Str) : List Str := reachS Gen.files 100 (frefsF (propsOf t)) []

/-- the bounds written in the documents of `reachOf t` and in the `properties` of `t`, and the two defaults -/
def boundsOf (t : Str) : List Int :=
  (0 :: 1000000 :: boundsF (propsOf t) ++
    ((reachOf t).map fun u => match lookup u Gen.files with | some d => boundsJ d | none => []).flatten).eraseDups

/-- `Bdd` as a test -/
def bddB (B : List Int) (S : List Str) (files : Store) : Bool :=
  S.all fun u => match lookup u files with
    | some (.dict doc) => metaIn B doc && boundsInF B doc && (frefsF doc).all S.contains
    | _ => true

theorem bddB_sound {B : List Int} {S : List Str} {files : Store} (h : bddB B S files = true) : Bdd B S files := by
  intro u hu doc hl
  have := List.all_eq_true.1 h u hu
  simp only [hl, Bool.and_eq_true, List.all_eq_true, List.contains_iff_mem] at this
  exact ⟨this.1.1, this.1.2, this.2⟩

/-- what `pruneS_agree` asks of the documents of a type, as a test -/
def classOK (t : Str) : Bool :=
  boundsInF (boundsOf t) (propsOf t) && (frefsF (propsOf t)).all (reachOf t).contains &&
    bddB (boundsOf t) (reachOf t) Gen.files

/-- in range and not 0: the versions for which `pruneS` computes the set of followed documents -/
def inR (v : Ver) : Bool := decide (0 < v.milli ∧ v.milli ≤ 1000000)

/-- on which side of every bound a version lies -/
def sides (B : List Int) (v : Int) : List (Bool × Bool) := B.map fun b => (decide (v < b), decide (b < v))

theorem sides_agree {B : List Int} {v w : Int} (h : sides B v = sides B w) : Agree B v w := by
  intro b hb
  have := List.map_inj_left.1 h b hb
  simp only [Prod.mk.injEq, decide_eq_decide] at this
  exact this

/-- the first version point in the class of `v` for the type `t` -/
def repOf (t : Str) : Option Ver → Option Ver
  | some v =>
    if inR v then
      (versionPoints.find? fun o => match o with
        | some w => inR w && sides (boundsOf t) v.milli == sides (boundsOf t) w.milli
        | none => false).getD (some v)
    else some v
  | none => none

def ptsOf (t : Str) : List (Option Ver) := (versionPoints.map (repOf t)).eraseDups

/-- the budget reaches at the point `w` (spelt as `getVersionedS` comes to it, so that it is evaluated once) -/
def runOK (t : Str) : Option Ver → Bool
  | some w =>
    match load Gen.files t with
    | .ok L =>
      (match L.root with
       | .dict kvs => (match lookup propsKey kvs with | some (.dict props) => (runS fuel w.milli L.store props).isSome | _ => true)
       | _ => true)
    | .error _ => true
  | none => true

/-- the faults of one type at the points `pts`, the known finding of `C19_defaults_valid` aside -/
def faultsAt (pts : List (Option Ver)) (t : Str) : List (Str × Str) :=
  ((pts.map fun v => createFaults t v).flatten).filter (fun f => f != (s%"label", s%"backgroundshadowsize"))

theorem faultsAt_nil {pts : List (Option Ver)} {t : Str} (h : faultsAt pts t = []) {v : Option Ver} (hv : v ∈ pts) :
    (createFaults t v).filter (fun f => f != (s%"label", s%"backgroundshadowsize")) = [] := by
  unfold faultsAt at h
  rw [List.filter_eq_nil_iff] at h ⊢
  exact fun f hf => h f (List.mem_flatten.mpr ⟨_, List.mem_map.mpr ⟨v, hv, rfl⟩, hf⟩)

theorem repOf_some (t : Str) (v : Ver) : repOf t (some v) = some v ∨
    ∃ w, repOf t (some v) = some w ∧ inR v = true ∧ inR w = true ∧ Agree (boundsOf t) v.milli w.milli := by
  by_cases hv : inR v = true
  · simp only [repOf, hv, if_true]
    cases hf : versionPoints.find? _ with
    | none => exact .inl rfl
    | some o =>
      have hp := List.find?_some hf
      cases o with
      | none => cases hp
      | some w =>
        simp only [Bool.and_eq_true, beq_iff_eq] at hp
        exact .inr ⟨w, rfl, trivial, hp.1, sides_agree hp.2⟩
  · simp only [repOf, hv, Bool.false_eq_true, if_false, true_or]

/-- a version point and the first point of its class give the same pruned load -/
theorem pruneS_rep (t : Str) (hc : classOK t = true) (hr : (ptsOf t).all (runOK t) = true) {v : Option Ver}
    (hv : v ∈ versionPoints) {L : Loaded} (hl : load Gen.files t = .ok L) : pruneS fuel v L = pruneS fuel (repOf t v) L := by
  have hrun := List.all_eq_true.1 hr _ (List.mem_eraseDups.2 (List.mem_map_of_mem hv))
  cases v with
  | none => rfl
  | some v =>
    rcases repOf_some t v with e | ⟨w, e, hv1, hw1, hA⟩
    · rw [e]
    · rw [e] at hrun ⊢
      obtain ⟨hroot, hstore⟩ := load_ok hl
      simp only [classOK, Bool.and_eq_true, List.all_eq_true, List.contains_iff_mem] at hc
      simp only [inR, decide_eq_true_eq] at hv1 hw1
      refine pruneS_agree (boundsOf t) v w hv1 hw1 hA fuel L (reachOf t)
        (hstore ▸ bddB_sound hc.2) (hstore ▸ C09_files_nodup) fun kvs props hk hp => ?_
      have hpr : propsOf t = props := by simp only [propsOf, hroot, hk, hp]
      simp only [runOK, hl, hk, hp, Option.isSome_iff_ne_none] at hrun
      exact hpr ▸ ⟨hc.1.1, hc.1.2, hpr ▸ hrun⟩

theorem createFaults_rep (t : Str) (hc : classOK t = true) (hr : (ptsOf t).all (runOK t) = true) {v : Option Ver}
    (hv : v ∈ versionPoints) : createFaults t v = createFaults t (repOf t v) := by
  simp only [createFaults, getVersioned_files, getVersionedS]
  cases hl : load Gen.files t with
  | error e => rfl
  | ok L =>
    simp only [pruneS_rep t hc hr hv hl]
    cases pruneS fuel (repOf t v) L with
    | ok _ => rfl
    | error _ => rfl

/-- what is evaluated for a type: the tests that make its classes sound (`classOK`, `runOK`), and the new faults at their
first points -/
def classFaults (t : Str) : Bool × List (Str × Str) := (classOK t && (ptsOf t).all (runOK t), faultsAt (ptsOf t) t)

theorem faults_of_classes {t : Str} (h : classFaults t = (true, [])) {v : Option Ver} (hv : v ∈ versionPoints) :
    (createFaults t v).filter (fun f => f != (s%"label", s%"backgroundshadowsize")) = [] := by
  simp only [classFaults, Prod.mk.injEq, Bool.and_eq_true] at h
  rw [createFaults_rep t h.1.1 h.1.2 hv]
  exact faultsAt_nil h.2 (List.mem_eraseDups.2 (List.mem_map_of_mem hv))

/-- the points are not vacuous: 14 distinct bounds, 30 version points, 19 block types, and the groups cover the types -/
theorem C19_create_points : folderBounds.length = 14 ∧ versionPoints.length = 30 ∧ Vocab.blockTypes.length = 19 ∧
    ∀ t ∈ Vocab.blockTypes, (groupA ++ groupB ++ groupC ++ groupD).contains t = true := by
  decide +kernel

end Mappy.Create
