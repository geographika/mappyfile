/-
  C15 — INCLUDE expansion equals textual substitution, bounded at 5 levels.
  Theorems about Model/Includes.lean (tied to Parser.load_includes by the `includes` correspondence on
  virtual include trees materialised on disk).  `ExpandsD d` is the specification: replace each INCLUDE
  line by the (recursively expanded) text of the file it names, using at most `d` levels of nesting.
-/
import Mappy.Model.Includes

namespace Mappy.Includes

variable (fs : Str → Option Str) (resolve : Str → Str)

inductive ExpandsD : Nat → List Str → List Str → Prop
  | nil (d : Nat) : ExpandsD d [] []
  | keep (d : Nat) (l : Str) (r r' : List Str) : isInclude l = false → ExpandsD d r r' → ExpandsD d (l :: r) (l :: r')
  | nameless (d : Nat) (l : Str) (r r' : List Str) :
      -- an INCLUDE line that names no file is no directive: it stays, and the parser reports the syntax error
      isInclude l = true → includeName l = none → ExpandsD (d + 1) r r' → ExpandsD (d + 1) (l :: r) (l :: r')
  | incl (d : Nat) (l name text : Str) (inc r r' : List Str) :
      isInclude l = true → includeName l = some name → fs (resolve name) = some text →
      ExpandsD d (splitNL text) inc → ExpandsD (d + 1) r r' → ExpandsD (d + 1) (l :: r) (joinNL inc :: r')

theorem splitNL_ne_nil (s : Str) : splitNL s ≠ [] := by
  fun_cases splitNL s <;> simp [*]

theorem join_split (s : Str) : joinNL (splitNL s) = s := by
  fun_induction splitNL s with
  | case1 => rfl
  | case2 r ih =>
    obtain ⟨h, t, hs⟩ := List.exists_cons_of_ne_nil (splitNL_ne_nil r)
    rw [hs] at ih ⊢
    simp [joinNL, ih]
  | case3 c r hc h t hs ih =>
    rw [hs] at ih
    cases t <;> simpa [joinNL] using ih
  | case4 c r hc hs => exact absurd hs (splitNL_ne_nil r)

theorem expandWith_append_keep (sub : Option (List Str → Res (List Str))) (pre ls : List Str)
    (h : ∀ l ∈ pre, isInclude l = false) :
    expandWith fs resolve sub (pre ++ ls) = (expandWith fs resolve sub ls).map (pre ++ ·) := by
  induction pre with
  | nil =>
    show expandWith fs resolve sub ls = _
    cases expandWith fs resolve sub ls <;> rfl
  | cons l r ih =>
    simp only [List.cons_append, expandWith, h l (by simp), Bool.false_eq_true, if_false,
      ih (fun x hx => h x (by simp [hx]))]
    cases expandWith fs resolve sub ls <;> rfl

/-- a text without INCLUDE lines is returned unchanged, at any nesting level -/
theorem C15_no_include_identity (nested : Nat) (text : Str) (h : ∀ l ∈ splitNL text, isInclude l = false) :
    loadIncludes fs resolve nested text = .ok text := by
  have hid : ∀ sub, expandWith fs resolve sub (splitNL text) = .ok (splitNL text) := fun sub => by
    simpa [expandWith, Except.map] using expandWith_append_keep fs resolve sub _ [] h
  unfold loadIncludes
  cases 5 - nested <;> simp [expandLines, hid, Except.map, join_split]

/-- soundness of the loop at level `d`, given soundness of the deeper level (if there is one) -/
theorem expandWith_sound (d : Nat) (sub : Option (List Str → Res (List Str)))
    (hsub : ∀ deeper, sub = some deeper → ∃ d', d = d' + 1 ∧ ∀ x y, deeper x = .ok y → ExpandsD fs resolve d' x y)
    (ls out : List Str) (h : expandWith fs resolve sub ls = .ok out) : ExpandsD fs resolve d ls out := by
  fun_induction expandWith fs resolve sub ls generalizing out with
  | case1 => cases h; exact .nil _
  | case4 l r hi deeper hs hn rest hr ih =>  -- an INCLUDE line naming no file
    obtain ⟨d, rfl, _⟩ := hsub deeper hs
    subst hs
    rw [hr] at h
    cases h
    exact .nameless d l r rest hi hn (ih rest hr)
  | case8 l r hi deeper hs name hn text ht inc hinc rest hr ih =>  -- an INCLUDE line expanded
    obtain ⟨d, rfl, hd⟩ := hsub deeper hs
    subst hs
    rw [hr] at h
    cases h
    exact .incl d l name text inc r rest hi hn ht (hd _ _ hinc) (ih rest hr)
  | case10 l r hi rest hr ih => cases h; exact .keep _ l r rest (by simpa using hi) (ih rest hr)  -- any other line
  | case3 _ _ _ _ hs _ _ hr | case7 _ _ _ _ hs _ _ _ _ _ _ _ hr => subst hs; rw [hr] at h; cases h  -- the remaining lines fail
  | case2 | case5 | case6 | case9 => cases h  -- the line itself fails

/-- C15 (soundness): whatever `load_includes` returns is the textual substitution of the INCLUDE lines,
using no more nesting levels than the budget. -/
theorem C15_sound (b : Nat) (ls out : List Str) (h : expandLines fs resolve b ls = .ok out) :
    ExpandsD fs resolve b ls out := by
  induction b generalizing ls out with
  | zero => exact expandWith_sound fs resolve 0 none (fun _ e => nomatch e) ls out h
  | succ b ih => exact expandWith_sound fs resolve (b + 1) _ (fun _ e => by cases e; exact ⟨b, rfl, ih⟩) ls out h

/-- C15 (completeness): every substitution that needs at most `b` levels of nesting is computed. -/
theorem C15_complete (b : Nat) (ls out : List Str) (h : ExpandsD fs resolve b ls out) :
    expandLines fs resolve b ls = .ok out := by
  induction h with
  | nil d => cases d <;> rfl
  | keep d l r r' hl _ ih =>
    cases d with
    | zero => simp only [expandLines, expandWith, hl, Bool.false_eq_true, if_false] at ih ⊢; rw [ih]
    | succ d => simp only [expandLines, expandWith, hl, Bool.false_eq_true, if_false] at ih ⊢; rw [ih]
  | nameless d l r r' hl hn _ ih =>
    simp only [expandLines, expandWith, hl, if_true, hn] at ih ⊢
    rw [ih]
  | incl d l name text inc r r' hl hn ht _ _ ih1 ih2 =>
    simp only [expandLines, expandWith, hl, if_true, hn, ht] at ih2 ⊢
    rw [ih1]
    simp only
    rw [ih2]

/-- five levels are expanded: the top-level call has budget 5 -/
theorem C15_five_levels (text : Str) (out : List Str) :
    ExpandsD fs resolve 5 (splitNL text) out ↔ loadIncludes fs resolve 0 text = .ok (joinNL out) ∧
      expandLines fs resolve 5 (splitNL text) = .ok out := by
  constructor
  · intro h
    have := C15_complete fs resolve 5 _ _ h
    simp [loadIncludes, this, Except.map]
  · intro h; exact C15_sound fs resolve 5 _ _ h.2

/-- at the nesting limit any further INCLUDE raises the MaxNested error (ValueError) -/
theorem C15_limit (ls : List Str) (h : ∃ l ∈ ls, isInclude l = true) :
    expandLines fs resolve 0 ls = .error .valueError := by
  induction ls with
  | nil => simp at h
  | cons l r ih =>
    simp only [expandLines, expandWith]
    by_cases hl : isInclude l = true
    · simp [hl]
    · have hl' : isInclude l = false := by simpa using hl
      obtain ⟨x, hx, hxi⟩ := h
      simp only [List.mem_cons] at hx
      rcases hx with rfl | hx
      · exact absurd hxi hl
      · have := ih ⟨x, hx, hxi⟩
        simp only [expandLines] at this
        simp [hl', this]

/-- a missing file is an I/O error -/
theorem C15_missing (b : Nat) (l name : Str) (r : List Str) (hl : isInclude l = true)
    (hn : includeName l = some name) (hm : fs (resolve name) = none) :
    expandLines fs resolve (b + 1) (l :: r) = .error .ioError := by
  simp [expandLines, expandWith, hl, hn, hm]

theorem cycle_hits_limit (text : Str) (pre post : List Str) (l name : Str)
    (hs : splitNL text = pre ++ l :: post) (hpre : ∀ x ∈ pre, isInclude x = false)
    (hl : isInclude l = true) (hn : includeName l = some name) (hf : fs (resolve name) = some text) (b : Nat) :
    expandLines fs resolve b (splitNL text) = .error .valueError := by
  induction b with
  | zero => exact C15_limit fs resolve _ ⟨l, by rw [hs]; simp, hl⟩
  | succ b ih =>
    rw [hs]
    simp only [expandLines, expandWith_append_keep fs resolve _ pre _ hpre, expandWith, hl, if_true, hn, hf]
    rw [ih]; rfl

/-- cyclic inclusion never succeeds, whatever the budget: a file whose first INCLUDE names itself -/
theorem C15_cycle (text : Str) (pre post : List Str) (l name : Str)
    (hs : splitNL text = pre ++ l :: post) (hpre : ∀ x ∈ pre, isInclude x = false)
    (hl : isInclude l = true) (hn : includeName l = some name) (hf : fs (resolve name) = some text) :
    ∀ b, ∃ e, expandLines fs resolve b (splitNL text) = .error e :=
  fun b => ⟨_, cycle_hits_limit fs resolve text pre post l name hs hpre hl hn hf b⟩

/-- a two-level tree expands, and exactly as textual substitution says -/
example :
    let fs : Str → Option Str := fun p =>
      if p = s%"/r/a.map" then some s%"NAME 'a'\n  include \"b.map\" # second" else
      if p = s%"/r/b.map" then some s%"TYPE POINT" else none
    let resolve : Str → Str := fun n => s%"/r/" ++ n
    loadIncludes fs resolve 0 s%"LAYER\nINCLUDE 'a.map'\nEND" = .ok s%"LAYER\nNAME 'a'\nTYPE POINT\nEND" := by
  decide

end Mappy.Includes
