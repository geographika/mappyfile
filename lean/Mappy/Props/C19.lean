/-
  C19 — grammar, keyword tables and schemas describe one vocabulary.
  Obligations over the regenerated tables (Gen/Grammar, Gen/Vocab, Gen/Schemas, Gen/Props, Gen/Patterns), discharged by
  `decide +kernel`; exceptions are computed from the tables and equated with explicit lists (= known_findings.json), so a
  schema / grammar / vocabulary edit that creates a new inconsistency breaks the obligation.
-/
import Mappy.Model.Schema
import Mappy.Model.Grammar
import Mappy.Model.Transformer
import Mappy.Gen.Grammar
import Mappy.Gen.Schemas
import Mappy.Gen.Patterns
import Mappy.Gen.Props
import Mappy.Gen.Vocab
import Mappy.Props.C11

namespace Mappy.Vocab
open Mappy Mappy.Schema

def env : Env := ⟨Gen.files, Gen.patterns⟩

def blockTypes : List Str := Roots.blockTypes.map lower

def fileName (t : Str) : Str := t ++ s%".json"

def dropExt (f : Str) : Str := f.dropLast.dropLast.dropLast.dropLast.dropLast

def objFiles : List (Str × Fields) := Gen.files.filterMap fun f =>
  match f.2 with
  | .dict sch =>
    (match lookup s%"properties" sch with
     | some (.dict p) => if hasKey s%"__type__" p then some (dropExt f.1, p) else none
     | _ => none)
  | _ => none

def isObjType (t : Str) : Bool := (objFiles.map (·.1)).contains t

def refObj (p : J) : Option Str :=
  match p with
  | .dict kvs =>
    (match Versioning.refOfFields kvs with
     | some u => if isObjType (dropExt u) then some (dropExt u) else none
     | none => none)
  | _ => none

/-- how a property schema nests an object type: directly (or through a single-element allOf wrapper), as the items
of an array, or somewhere else (an alternative of oneOf) -/
inductive Nest where
  | single (t : Str) | listOf (t : Str) | inline (t : Str) | none
  deriving Repr, DecidableEq

def nestOf (p : J) : Nest :=
  match refObj p with
  | some t => .single t
  | none =>
    match p with
    | .dict kvs =>
      (match lookup s%"allOf" kvs with
       | some (.list [x]) => (match refObj x with | some t => .single t | none => .none)
       | _ =>
         (match lookup s%"items" kvs with
          | some it => (match refObj it with | some t => .listOf t | none => .none)
          | none =>
            (match lookup s%"oneOf" kvs with
             | some (.list alts) => (match alts.filterMap refObj with | t :: _ => .inline t | [] => .none)
             | _ => .none)))
    | _ => .none

/-- is the slot (parent type, key) consistent with how the transformer stores a nested block of that type? -/
def slotOK (k : Str) : Nest → Bool
  | .single t => k = t && Gen.singletonNames.contains t
  | .listOf t => k = Transformer.plural t && !Gen.singletonNames.contains t && Gen.objectListKeys.contains k
  | .inline _ => false
  | .none => true

def badSlots : List (Str × Str) :=
  (objFiles.map fun (t, props) => props.filterMap fun (k, p) => if slotOK k (nestOf p) then none else some (t, k)).flatten

/-- **C19_blocks_have_schema** — every block type the grammar can open has a schema file and an entry in the table the
printer's keyword look-up reads -/
theorem C19_blocks_have_schema : ∀ t ∈ blockTypes, hasKey (fileName t) Gen.files = true ∧ (lookupS t Gen.props).isSome = true := by
  decide +kernel

/-- **C19_singleton_plural_consistent** — in every parent schema a nested block type sits under its own name exactly
when the transformer treats it as a singleton, and under its plural (which the auto-creating dict knows as an object
list) otherwise.  The only exceptions on this tree are the inline SYMBOL of a CLASS / STYLE, which the transformer
stores under `symbols` while the schemas declare it as an alternative of `symbol` (known finding). -/
theorem C19_singleton_plural_consistent : badSlots = [(s%"class", s%"symbol"), (s%"style", s%"symbol")] := by decide +kernel

/-- non-singleton block types that can be nested are object-list keys of the auto-creating dict, singletons are not -/
theorem C19_object_list_keys :
    ∀ t ∈ blockTypes, t ≠ s%"map" →
      Gen.objectListKeys.contains (Transformer.plural t) = !Gen.singletonNames.contains t := by decide +kernel

/-- **C19_keywords_found** — every keyword an object schema allows is found by the printer's schema look-up table -/
theorem C19_keywords_found : ∀ f ∈ objFiles, ∀ kp ∈ f.2,
    (match lookupS f.1 Gen.props with | some cells => (lookupS kp.1 cells).isSome | none => false) = true := by decide +kernel

def badDefaults : List (Str × Str) :=
  (objFiles.map fun (t, props) => props.filterMap fun (k, p) =>
    match p with
    | .dict pf =>
      (match lookup s%"default" pf with
       | some dv => if (errs env 12 p dv []).isEmpty then none else some (t, k)
       | none => none)
    | _ => none).flatten

/-- **C19_defaults_valid** — every default declared in a schema satisfies the schema of its own keyword (Draft-4 subset
semantics of Model/Schema.lean), except LABEL BACKGROUNDSHADOWSIZE `false` (known finding) -/
theorem C19_defaults_valid : badDefaults = [(s%"label", s%"backgroundshadowsize")] := by decide +kernel

/-- every REPEATED_KEYS / SINGLETON / object-list name is spelled in lower case, as the transformer's keys are -/
theorem C19_vocab_lower : (∀ k ∈ Gen.repeatedKeys, lower k = k) ∧ (∀ k ∈ Gen.singletonNames, lower k = k) ∧
    (∀ k ∈ Gen.objectListKeys, lower k = k) := by decide +kernel

def symbolKeywords : List Str :=
  match lookup s%"symbol.json" Gen.files with
  | some (.dict sch) => (match lookup s%"properties" sch with
      | some (.dict p) => ((keys p).filter fun k => !Transformer.underscored k).map upper | _ => [])
  | _ => []

/-- **C19_symbol_attributes** — every keyword of symbol.json is accepted as a keyword directly after SYMBOL (so it can
be the first keyword of a SYMBOL block) -/
theorem C19_symbol_attributes : ∀ k ∈ symbolKeywords, Gen.symbolAttributes.contains k = true := by decide +kernel

end Mappy.Vocab
