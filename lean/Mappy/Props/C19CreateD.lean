/- C19 — `create(type, version)` validates: the block types of group D (split for parallel kernel evaluation) -/
import Mappy.Props.C19Create
namespace Mappy.Create
theorem C19_create_valid_D : ∀ t ∈ groupD, classFaults t = (true, []) := by
  simp only [classFaults, faultsAt, createFaults, getVersioned_files]
  decide +kernel
end Mappy.Create
