/-
  C09 — version-aware validation follows minVersion / maxVersion.
  Theorems about Model/Versioning.lean (tied to validator.py by the `vrun` correspondence: expanded views of
  get_versioned_schema / get_expanded_schema for every root schema × version class, and call histories on one
  Validator) and obligations over the regenerated schema folder Gen.files.
-/
import Mappy.Model.Versioning
import Mappy.Gen.Schemas
import Mappy.Lemmas.Assoc
import Mappy.Lemmas.VersionStore
import Mappy.Lemmas.JInd

namespace Mappy.Versioning

def boundsNumeric (md : Fields) : Prop :=
  (∀ x, lookup minKey md = some x → (numMilli x).isSome) ∧ (∀ x, lookup maxKey md = some x → (numMilli x).isSome)

/-- `is_valid_for_version` is exactly `minVersion ≤ version ≤ maxVersion`, with the defaults 0 and 1000
(versions are in thousandths: 0 and 1000000) -/
theorem C09_valid_iff (v : Int) (d md : Fields) (h : lookup metaKey d = some (.dict md)) :
    isValid v d = true ↔ minOf md ≤ v ∧ v ≤ maxOf md := by
  simp only [isValid, h]
  simp only [Bool.not_eq_true', Bool.or_eq_false_iff, decide_eq_false_iff_not, Int.not_lt]

theorem C09_unannotated_valid (v : Int) (d : Fields) (h : lookup metaKey d = none) : isValid v d = true := by
  simp [isValid, h]

theorem C09_defaults (md : Fields) (h1 : lookup minKey md = none) (h2 : lookup maxKey md = none) :
    minOf md = 0 ∧ maxOf md = 1000000 := by
  simp [minOf, maxOf, h1, h2]

mutual
def refFree : J → Bool
  | .dict kvs => (refOfFields kvs).isNone && refFreeF kvs
  | .list xs => refFreeL xs
  | _ => true
def refFreeF : Fields → Bool
  | [] => true
  | (_, x) :: r => refFree x && refFreeF r
def refFreeL : List J → Bool
  | [] => true
  | x :: r => refFree x && refFreeL r
end

mutual
/-- the specification: drop every dict-valued entry and every dict alternative that is out of range, at every depth -/
def specFields (v : Int) : Fields → Fields
  | [] => []
  | (k, x) :: r =>
    match x with
    | .dict kvs => if isValid v kvs then (k, .dict (specFields v kvs)) :: specFields v r else specFields v r
    | .list xs => (k, .list (specList v xs)) :: specFields v r
    | _ => (k, x) :: specFields v r
def specList (v : Int) : List J → List J
  | [] => []
  | e :: es =>
    match e with
    | .dict kvs => if isValid v kvs then .dict (specFields v kvs) :: specList v es else specList v es
    | _ => e :: specList v es
end

theorem specFields_leaf (v : Int) {k : Str} {x : J} {r : Fields} (hd : ∀ kvs, x ≠ .dict kvs) (hl : ∀ xs, x ≠ .list xs) :
    specFields v ((k, x) :: r) = (k, x) :: specFields v r := by
  cases x with
  | dict _ => exact absurd rfl (hd _)
  | list _ => exact absurd rfl (hl _)
  | _ => simp only [specFields]

theorem specList_other (v : Int) {x : J} {es : List J} (hd : ∀ kvs, x ≠ .dict kvs) :
    specList v (x :: es) = x :: specList v es := by
  cases x with
  | dict _ => exact absurd rfl (hd _)
  | _ => simp only [specList]

theorem walk_refFree (v : Int) (fo : Str → Store → Store) (σ : Store) :
    (∀ d, refFreeF d = true → fFields v fo σ d = (specFields v d, σ)) ∧
    (∀ xs, refFreeL xs = true → fList v fo σ xs = (specList v xs, σ)) := by
  refine walk_induct ?_ ?_ ?_ ?_ ?_ ?_ ?_
  · intro _; simp only [fFields, specFields]
  · intro k kvs r ihk ihr h
    simp only [refFreeF, refFree, Bool.and_eq_true, Option.isNone_iff_eq_none] at h
    simp only [fFields, h.1.1, specFields, ihk h.1.2, ihr h.2]
  · intro k xs r ihx ihr h
    simp only [refFreeF, refFree, Bool.and_eq_true] at h
    simp only [fFields, specFields, ihx h.1, ihr h.2]
  · intro k x r hd hl ihr h
    simp only [refFreeF, Bool.and_eq_true] at h
    simp only [fFields_leaf v fo σ hd hl, specFields_leaf v hd hl, ihr h.2]
  · intro _; simp only [fList, specList]
  · intro kvs es ihk ihe h
    simp only [refFreeL, refFree, Bool.and_eq_true, Option.isNone_iff_eq_none] at h
    simp only [fList, h.1.1, specList, ihk h.1.2, ihe h.2]
    split <;> rfl
  · intro x es hd ihe h
    simp only [refFreeL, Bool.and_eq_true] at h
    simp only [fList_other v fo σ hd, specList_other v hd, ihe h.2]

theorem fList_refFree (v : Int) (fo : Str → Store → Store) (σ : Store) :
    (xs : List J) → refFreeL xs = true → fList v fo σ xs = (specList v xs, σ) :=
  (walk_refFree v fo σ).2

/-- **C09_tree_spec** — on an expanded (reference-free) `properties` dict, `get_versioned_properties` returns
exactly the specification filter: a keyword / object / alternative survives iff its own range and the range of every
enclosing annotated object contain the version; nothing else is touched. -/
theorem C09_tree_spec (v : Int) (n : Nat) (σ : Store) (d : Fields) (h : refFreeF d = true) :
    fFields v (follow v n) σ d = (specFields v d, σ) := (walk_refFree v _ σ).1 d h

/-- an annotated keyword (dict-valued entry) is kept exactly in its range … -/
theorem C09_keyword_kept_iff (v : Int) (k : Str) (e r : Fields) :
    specFields v ((k, .dict e) :: r) =
      if isValid v e then (k, .dict (specFields v e)) :: specFields v r else specFields v r := by
  simp [specFields]

/-- … and an annotated alternative of a `oneOf` / `anyOf` / `items` list likewise -/
theorem C09_alternative_kept_iff (v : Int) (e : Fields) (es : List J) :
    specList v (.dict e :: es) = if isValid v e then .dict (specFields v e) :: specList v es else specList v es := by
  simp [specList]

mutual
def noMeta : J → Bool
  | .dict kvs => noMetaF kvs
  | .list xs => noMetaL xs
  | _ => true
def noMetaF : Fields → Bool
  | [] => true
  | (k, x) :: r => k != metaKey && noMeta x && noMetaF r
def noMetaL : List J → Bool
  | [] => true
  | x :: r => noMeta x && noMetaL r
end

theorem lookup_none_of_noMetaF : (d : Fields) → noMetaF d = true → lookup metaKey d = none
  | [], _ => rfl
  | (k, x) :: r, h => by
    simp only [noMetaF, Bool.and_eq_true, bne_iff_ne, ne_eq] at h
    simp only [lookup, h.1.1, if_false]
    exact lookup_none_of_noMetaF r h.2

theorem spec_unannotated (v : Int) :
    (∀ d, noMetaF d = true → specFields v d = d) ∧ (∀ xs, noMetaL xs = true → specList v xs = xs) := by
  refine walk_induct ?_ ?_ ?_ ?_ ?_ ?_ ?_
  · intro _; simp only [specFields]
  · intro k kvs r ihk ihr h
    simp only [noMetaF, noMeta, Bool.and_eq_true] at h
    simp only [specFields, C09_unannotated_valid v kvs (lookup_none_of_noMetaF kvs h.1.2), if_true, ihk h.1.2, ihr h.2]
  · intro k xs r ihx ihr h
    simp only [noMetaF, noMeta, Bool.and_eq_true] at h
    simp only [specFields, ihx h.1.2, ihr h.2]
  · intro k x r hd hl ihr h
    simp only [noMetaF, Bool.and_eq_true] at h
    simp only [specFields_leaf v hd hl, ihr h.2]
  · intro _; simp only [specList]
  · intro kvs es ihk ihe h
    simp only [noMetaL, noMeta, Bool.and_eq_true] at h
    simp only [specList, C09_unannotated_valid v kvs (lookup_none_of_noMetaF kvs h.1), if_true, ihk h.1, ihe h.2]
  · intro x es hd ihe h
    simp only [noMetaL, Bool.and_eq_true] at h
    simp only [specList_other v hd, ihe h.2]

/-- **C09_unannotated_id** — everything unannotated is judged as it is without a version -/
theorem C09_unannotated_id (v : Int) : (d : Fields) → noMetaF d = true → specFields v d = d :=
  (spec_unannotated v).1

theorem C09_unannotated_idL (v : Int) : (xs : List J) → noMetaL xs = true → specList v xs = xs :=
  (spec_unannotated v).2

/-! ### idempotence of the specification filter (what makes the per-version cache entry reusable) -/

def isAtom : J → Bool
  | .dict _ => false
  | .list _ => false
  | _ => true

def metaOK (d : Fields) : Bool :=
  match lookup metaKey d with
  | some (.dict md) => md.all (fun kv => isAtom kv.2)
  | some _ => false
  | none => true

mutual
def metaWF : J → Bool
  | .dict kvs => metaOK kvs && metaWFF kvs
  | .list xs => metaWFL xs
  | _ => true
def metaWFF : Fields → Bool
  | [] => true
  | (_, x) :: r => metaWF x && metaWFF r
def metaWFL : List J → Bool
  | [] => true
  | x :: r => metaWF x && metaWFL r
end

theorem isAtom_eq : isAtom = isAtomJ := funext fun x => by cases x <;> rfl

theorem specFields_atoms (v : Int) : (md : Fields) → md.all (fun kv => isAtom kv.2) = true → specFields v md = md
  | [], _ => by simp only [specFields]
  | (k, x) :: r, h => by
    rw [List.all_cons, Bool.and_eq_true, isAtom_eq, isAtomJ_iff] at h
    rw [specFields_leaf v h.1.1 h.1.2, specFields_atoms v r (isAtom_eq ▸ h.2)]

theorem lookup_meta_spec (v : Int) : (d : Fields) → metaOK d = true → lookup metaKey (specFields v d) = lookup metaKey d
  | [], _ => by simp [specFields]
  | (k, x) :: r, h => by
    by_cases hk : k = metaKey
    · subst hk
      cases x with
      | dict md =>
        have ha : md.all (fun kv => isAtom kv.2) = true := by simpa [metaOK, lookup] using h
        simp [specFields, atoms_valid v md (isAtom_eq ▸ ha), lookup, specFields_atoms v md ha]
      | _ => simp [metaOK, lookup] at h
    · have h' : metaOK r = true := by simpa [metaOK, lookup, hk] using h
      have ih := lookup_meta_spec v r h'
      cases x with
      | dict kvs =>
        simp only [specFields]
        split
        · simp [lookup, hk, ih]
        · simp [lookup, hk, ih]
      | list xs => simp [specFields, lookup, hk, ih]
      | _ => simp [specFields, lookup, hk, ih]

theorem isValid_spec (v : Int) (d : Fields) (h : metaOK d = true) : isValid v (specFields v d) = isValid v d := by
  simp only [isValid, lookup_meta_spec v d h]

theorem spec_idem (v : Int) :
    (∀ d, metaWFF d = true → specFields v (specFields v d) = specFields v d) ∧
    (∀ xs, metaWFL xs = true → specList v (specList v xs) = specList v xs) := by
  refine walk_induct ?_ ?_ ?_ ?_ ?_ ?_ ?_
  · intro _; simp only [specFields]
  · intro k kvs r ihk ihr h
    simp only [metaWFF, metaWF, Bool.and_eq_true] at h
    simp only [specFields]
    split
    · simp only [specFields, isValid_spec v kvs h.1.1, *, if_true, ihk h.1.2, ihr h.2]
    · exact ihr h.2
  · intro k xs r ihx ihr h
    simp only [metaWFF, metaWF, Bool.and_eq_true] at h
    simp only [specFields, ihx h.1, ihr h.2]
  · intro k x r hd hl ihr h
    simp only [metaWFF, Bool.and_eq_true] at h
    simp only [specFields_leaf v hd hl, ihr h.2]
  · intro _; simp only [specList]
  · intro kvs es ihk ihe h
    simp only [metaWFL, metaWF, Bool.and_eq_true] at h
    simp only [specList]
    split
    · simp only [specList, isValid_spec v kvs h.1.1, *, if_true, ihk h.1.2, ihe h.2]
    · exact ihe h.2
  · intro x es hd ihe h
    simp only [metaWFL, Bool.and_eq_true] at h
    simp only [specList_other v hd, ihe h.2]

/-- **C09_spec_idem** — filtering an already filtered schema for the same version changes nothing -/
theorem C09_spec_idem (v : Int) : (d : Fields) → metaWFF d = true → specFields v (specFields v d) = specFields v d :=
  (spec_idem v).1

theorem C09_spec_idemL (v : Int) : (xs : List J) → metaWFL xs = true → specList v (specList v xs) = specList v xs :=
  (spec_idem v).2

theorem C09_no_version (fuel : Nat) (L : Loaded) : prune fuel none L = .ok L := rfl

theorem C09_zero_version (fuel : Nat) (k : Str) (L : Loaded) : prune fuel (some ⟨0, k⟩) L = .ok L := by
  simp [prune]

theorem cget_cset (k k' : Str) (L : Loaded) (c : Cache) :
    cget k' (cset k L c) = if k' = k then some L else cget k' c := by
  induction c with
  | nil => simp [cset, cget, eq_comm]
  | cons kv r ih =>
    obtain ⟨a, b⟩ := kv
    by_cases h : a = k
    · subst h; by_cases h' : a = k' <;> simp [cset, cget, h', Ne.symm]
    · by_cases h' : a = k'
      · subst h'; simp [cset, cget, h]
      · simp [cset, cget, h, h', ih]

def CacheInv (fuel : Nat) (files : Store) (hist : List (Str × Option Ver)) (c : Cache) : Prop :=
  ∀ k L, cget k c = some L →
    ∃ n ver L0, (n, ver) ∈ hist ∧ cacheKey n ver = k ∧ load files n = .ok L0 ∧ (L = L0 ∨ prune fuel ver L0 = .ok L)

def verOK : Option Ver → Prop
  | none => True
  | some vv => inRange vv.milli

def PruneIdem (fuel : Nat) (files : Store) : Prop :=
  ∀ n ver L0 L, verOK ver → load files n = .ok L0 → prune fuel ver L0 = .ok L → prune fuel ver L = .ok L

def KeysInj (hist : List (Str × Option Ver)) : Prop :=
  ∀ a ∈ hist, ∀ b ∈ hist, cacheKey a.1 a.2 = cacheKey b.1 b.2 → a = b

def opArgs : VOp → Str × Option Ver
  | .expanded n ver => (n, ver)
  | .versioned n ver => (n, ver)

def freshAnswer (fuel : Nat) (files : Store) (op : VOp) : Res J := (vstep fuel files [] op).1

theorem fresh_versioned (fuel : Nat) (files : Store) (n : Str) (ver : Option Ver) :
    freshAnswer fuel files (.versioned n ver) =
      match load files n with
      | .error e => .error e
      | .ok L0 => match prune fuel ver L0 with
        | .ok L => .ok (viewN L.store fuel L.root)
        | .error e => .error e := by
  simp only [freshAnswer, vstep, getVersioned, getExpanded, cget]
  cases load files n with
  | error e => rfl
  | ok L0 =>
    simp only
    cases prune fuel ver L0 with
    | error e => rfl
    | ok L => rfl

theorem cacheInv_cset {fuel : Nat} {files : Store} {hist : List (Str × Option Ver)} {c : Cache} {n : Str}
    {ver : Option Ver} {L0 L : Loaded} (hinv : CacheInv fuel files hist c) (hin : (n, ver) ∈ hist)
    (hload : load files n = .ok L0) (hL : L = L0 ∨ prune fuel ver L0 = .ok L) :
    CacheInv fuel files hist (cset (cacheKey n ver) L c) := by
  intro k X hX
  rw [cget_cset] at hX
  split at hX
  · rename_i hkk; injection hX with hX; subst hX
    exact ⟨n, ver, L0, hin, hkk.symm, hload, hL⟩
  · exact hinv _ _ hX

/-- **C09_versioned_step** — a versioned call on a Validator whose cache satisfies the invariant
answers exactly as a fresh Validator does, and re-establishes the invariant: asking about one version never changes
the answer for another version (or for the same one asked again). -/
theorem C09_versioned_step (fuel : Nat) (files : Store) (hist : List (Str × Option Ver)) (c : Cache)
    (n : Str) (ver : Option Ver) (hin : (n, ver) ∈ hist) (hk : KeysInj hist) (hidem : PruneIdem fuel files)
    (hR : ∀ o ∈ hist, verOK o.2) (hinv : CacheInv fuel files hist c) :
    (vstep fuel files c (.versioned n ver)).1 = freshAnswer fuel files (.versioned n ver) ∧
    CacheInv fuel files hist (vstep fuel files c (.versioned n ver)).2 := by
  rw [fresh_versioned]
  simp only [vstep, getVersioned, getExpanded]
  cases hc : cget (cacheKey n ver) c with
  | some L =>
    obtain ⟨n', ver', L0, hmem, hkey, hload, hL⟩ := hinv _ _ hc
    obtain ⟨rfl, rfl⟩ := Prod.mk.inj (hk (n', ver') hmem (n, ver) hin hkey)
    -- what is cached prunes to what the fresh load prunes to: it is that load, or its pruned form (`PruneIdem`)
    have hpr : prune fuel ver' L = prune fuel ver' L0 :=
      hL.elim (fun h => by rw [h]) fun h => by rw [h]; exact hidem _ _ _ _ (hR _ hmem) hload h
    simp only [hload, hpr]
    cases hp0 : prune fuel ver' L0 with
    | error e => exact ⟨rfl, hinv⟩
    | ok L1 => exact ⟨rfl, cacheInv_cset hinv hmem hload (Or.inr hp0)⟩
  | none =>
    cases hload : load files n with
    | error e => exact ⟨rfl, hinv⟩
    | ok L0 =>
      have h0 := cacheInv_cset hinv hin hload (Or.inl rfl)
      simp only
      cases hp0 : prune fuel ver L0 with
      | error e => exact ⟨rfl, h0⟩
      | ok L1 => exact ⟨rfl, cacheInv_cset h0 hin hload (Or.inr hp0)⟩

/-- **C09_cache_transparent** — for every history of versioned-schema requests on one Validator (any schema names,
any versions, any order, any repetition), every answer is the answer a fresh Validator gives. -/
theorem C09_cache_transparent (fuel : Nat) (files : Store) (hidem : PruneIdem fuel files)
    (hist : List (Str × Option Ver)) (hk : KeysInj hist) (hR : ∀ o ∈ hist, verOK o.2) :
    ∀ (ops : List (Str × Option Ver)) (c : Cache), (∀ o ∈ ops, o ∈ hist) → CacheInv fuel files hist c →
      (vrun fuel files c (ops.map fun o => .versioned o.1 o.2)).1 =
        ops.map (fun o => freshAnswer fuel files (.versioned o.1 o.2)) := by
  intro ops
  induction ops with
  | nil => intro c _ _; rfl
  | cons o r ih =>
    intro c hsub hinv
    obtain ⟨n, ver⟩ := o
    have hs := C09_versioned_step fuel files hist c n ver (hsub _ (by simp)) hk hidem hR hinv
    simp only [List.map_cons, vrun]
    rw [ih _ (fun o ho => hsub o (by simp [ho])) hs.2, hs.1]

mutual
def refsOf : J → List Str
  | .dict kvs => match refOfFields kvs with | some u => [u] | none => refsOfF kvs
  | .list xs => refsOfL xs
  | _ => []
def refsOfF : Fields → List Str
  | [] => []
  | (_, x) :: r => refsOf x ++ refsOfF r
def refsOfL : List J → List Str
  | [] => []
  | x :: r => refsOf x ++ refsOfL r
end

def closedAt (σ : Store) : Nat → Str → Bool
  | 0, _ => false
  | n + 1, u =>
    match lookup u σ with
    | some (.dict doc) => (refsOfF doc).all (closedAt σ n)
    | _ => false

/-- the reference graph of the schema folder is acyclic and every `$ref` resolves to an object document:
nesting depth < 8 ≤ the walk's budget -/
theorem C09_acyclic : ∀ f ∈ Gen.files, closedAt Gen.files 8 f.1 = true := by decide +kernel

/-- every `metadata` entry of every schema file is a flat dict of plain values (what `C09_spec_idem` needs) -/
theorem C09_files_metaWF : ∀ f ∈ Gen.files, metaWF f.2 = true := by decide +kernel

mutual
def boundsOK : J → Bool
  | .dict kvs =>
    (match lookup metaKey kvs with
     | some (.dict md) =>
       (match lookup minKey md with | some x => (numMilli x).isSome | none => true) &&
       (match lookup maxKey md with | some x => (numMilli x).isSome | none => true)
     | some _ => false
     | none => true) && boundsOKF kvs
  | .list xs => boundsOKL xs
  | _ => true
def boundsOKF : Fields → Bool
  | [] => true
  | (_, x) :: r => boundsOK x && boundsOKF r
def boundsOKL : List J → Bool
  | [] => true
  | x :: r => boundsOK x && boundsOKL r
end

mutual
/-- no version annotation sits beside a `$ref`: reference expansion replaces the whole object by its referent, so a
`minVersion` / `maxVersion` written there would silently never be honoured -/
def noBoundsOnRef : J → Bool
  | .dict kvs =>
    (match refOfFields kvs, lookup metaKey kvs with
     | some _, some (.dict md) => !(hasKey minKey md || hasKey maxKey md)
     | _, _ => true) && noBoundsOnRefF kvs
  | .list xs => noBoundsOnRefL xs
  | _ => true
def noBoundsOnRefF : Fields → Bool
  | [] => true
  | (_, x) :: r => noBoundsOnRef x && noBoundsOnRefF r
def noBoundsOnRefL : List J → Bool
  | [] => true
  | x :: r => noBoundsOnRef x && noBoundsOnRefL r
end

/-- **C09_files_annotations_effective** — in the regenerated schema folder every version annotation sits where the filter
can see it (never beside a `$ref`, where jsonref drops it) -/
theorem C09_files_annotations_effective : ∀ f ∈ Gen.files, noBoundsOnRef f.2 = true := by decide +kernel

/-- every `metadata` entry is a dict and its minVersion / maxVersion are decimal numbers the model reads exactly -/
theorem C09_files_bounds : ∀ f ∈ Gen.files, boundsOK f.2 = true := by decide +kernel

/-- **C09_walk_is_local_filter** — whatever state the shared store is in (any earlier requests, any budget), the
properties dict `get_versioned_properties` returns is the local filter of what it was given: every dict-valued entry
and every dict alternative is dropped iff out of range — a reference by the range of the document it points to —
at every depth of the document -/
theorem C09_walk_is_local_filter (v : Int) (hv : inRange v) (n : Nat) (σ : Store) (d : Fields) (rv : Str → Bool)
    (h : Inv v rv σ) : (fFields v (follow v n) σ d).1 = lFields v rv d :=
  (fFields_local v rv (follow v n) (follow_inv v rv hv n) d σ h).1

/-- **C09_prune_idem** — for every schema folder whose documents are well formed (unique keys, flat `metadata`
entries), every budget, schema name and version: pruning an already pruned load changes neither the returned schema
nor any document of the shared store.  (This is the premise `PruneIdem` of `C09_cache_transparent`.) -/
theorem C09_prune_idem (fuel : Nat) (files : Store) (hwf : ∀ f ∈ files, wf f.2 = true) : PruneIdem fuel files := by
  intro n ver L0 L hver hload
  obtain ⟨hl, rfl⟩ := load_ok hload
  have hroot : wf L0.root = true := hwf (fileOf n, L0.root) (mem_of_lookup _ _ _ hl)
  fun_cases prune fuel ver L0 with
  | case1 =>
    intro h
    cases h
    rfl
  | case2 v hz =>
    intro h
    cases h
    simp only [prune, hz, if_true]
  | case3 v hz kvs hr props hp p' σ' hwalk =>
    intro h
    cases h
    have hi := walk_idem v.milli _ hver fuel (inv_files v.milli L0.store hwf) ((wf_dict props).1 (wf_lookup (hr ▸ hroot) hp)).2.2
    simp only [hwalk] at hi
    simp only [prune, hz, if_false, lookup_setKey, if_true, hi, setKey_setKey_same]
  | _ =>
    intro h
    cases h

/-- every schema file of the folder is well formed: unique keys at every level, every `metadata` entry a flat dict of
plain values -/
theorem C09_files_wf : ∀ f ∈ Gen.files, wf f.2 = true := by decide +kernel

/-- no two schema files of the folder have the same name -/
theorem C09_files_nodup : (keys Gen.files).Nodup := by decide +kernel

/-- **C09_cache_transparent_files** — for the schema folder of this tree, unconditionally: for EVERY history of
versioned-schema requests on one Validator object (any schema names, versions, order, repetition, any budget) every
answer is the answer a fresh Validator gives — asking about one version never changes the answer for another
version, for the same version asked again, or for the version-less export -/
theorem C09_cache_transparent_files (fuel : Nat) (hist : List (Str × Option Ver)) (hk : KeysInj hist)
    (hR : ∀ o ∈ hist, verOK o.2) (ops : List (Str × Option Ver)) (hsub : ∀ o ∈ ops, o ∈ hist) :
    (vrun fuel Gen.files [] (ops.map fun o => .versioned o.1 o.2)).1 =
      ops.map (fun o => freshAnswer fuel Gen.files (.versioned o.1 o.2)) :=
  C09_cache_transparent fuel Gen.files (C09_prune_idem fuel Gen.files C09_files_wf) hist hk hR ops [] hsub
    fun k L h => by simp [cget] at h

/-- non-vacuity: an annotated entry of the real folder, dropped below its minVersion and kept from it on -/
example : isValid 7500 [(metaKey, .dict [(minKey, .flt s%"7.6")])] = false ∧
          isValid 7600 [(metaKey, .dict [(minKey, .flt s%"7.6")])] = true := by decide

end Mappy.Versioning
