/- C19 — `create(type, version)` validates: the block types of group C (split for parallel kernel evaluation) -/
import Mappy.Props.C19Create
namespace Mappy.Create
theorem C19_create_valid_C : ∀ t ∈ groupC, classFaults t = (true, []) := by
  simp only [classFaults, faultsAt, createFaults, getVersioned_files]
  decide +kernel
end Mappy.Create
