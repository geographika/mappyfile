/-
  A decidable classifier for the class `WellRead` of Props/C01Attr.lean: `classify cfg t = some d` implies
  `WellRead cfg t d` (so `C01_document_roundtrip` applies and the transformer returns exactly `d`).  The harness runs
  `classify` on the real Lark tree of every printed document and compares `d` with what the real transformer returned.
-/
import Mappy.Props.C01Attr

namespace Mappy.RoundTrip
open Mappy Mappy.Transformer

theorem lookup_of_typeOfF {sub : Fields} {t : Str} (h : typeOfF sub = some t) : lookup s%"__type__" sub = some (.str t) := by
  unfold typeOfF at h
  split at h
  · rename_i k hk
    cases h
    exact hk
  · cases h

theorem takeRun_spec (t : Str) (items : List R) :
    items = (takeRun t items).1.map R.cdict ++ (takeRun t items).2 ∧
    ∀ sub ∈ (takeRun t items).1, lookup s%"__type__" sub = some (.str t) := by
  fun_induction takeRun t items with
  | case1 sub r h ih => exact ⟨congrArg _ ih.1, fun x hx => (List.mem_cons.mp hx).elim (· ▸ lookup_of_typeOfF h) (ih.2 x)⟩
  | case2 | case3 => exact ⟨rfl, fun _ hx => nomatch hx⟩

theorem takeRun_length (t : Str) : (items : List R) → (takeRun t items).2.length ≤ items.length := by
  intro items
  fun_induction takeRun t items with
  | case1 sub r h ih => exact Nat.le_succ_of_le ih
  | case2 | case3 => exact Nat.le_refl _

theorem takeLines_spec (k : Str) (items : List R) :
    ∃ run, items = run ++ (takeLines k items).2 ∧ RepRun k run (takeLines k items).1 := by
  fun_induction takeLines k items with
  | case1 kvs r v p hp ih => obtain ⟨run, h1, h2⟩ := ih; exact ⟨.adict kvs :: run, congrArg _ h1, .cons kvs v p run _ hp h2⟩
  | case2 | case3 | case4 => exact ⟨[], rfl, .nil⟩

/-- by the cases of `readEntries` itself: each accepting branch is one constructor of `EntriesOf` -/
theorem readEntries_sound (S Rp : List Str) (n : Nat) (items : List R) (d : Fields)
    (h : readEntries S Rp n items = some d) : EntriesOf S Rp items d := by
  fun_induction readEntries S Rp n items generalizing d with
  | case1 => cases h; exact .nil
  | case3 n kvs rest k v p hp hb ih =>  -- a plain keyword line
    obtain ⟨d', hd', rfl⟩ := Option.map_eq_some_iff.mp h
    simp only [plainB, Bool.and_eq_true, bne_iff_ne, ne_eq, Bool.not_eq_true'] at hb
    exact .line kvs k v p rest d' hp hb (ih d' hd')
  | case4 n kvs rest k v p hp _ hr ih =>  -- a run of lines of a repeated keyword
    obtain ⟨d', hd', rfl⟩ := Option.map_eq_some_iff.mp h
    simp only [Bool.and_eq_true, bne_iff_ne, ne_eq] at hr
    obtain ⟨run, h1, h2⟩ := takeLines_spec k rest
    have := EntriesOf.rep k (.adict kvs :: run) _ _ d' (by simp) hr.2 hr.1.1 hr.1.2 (.cons kvs v p run _ hp h2) (ih d' hd')
    rwa [List.cons_append, ← h1] at this
  | case8 n sub rest t ht hu hS ih =>  -- a singleton block
    obtain ⟨d', hd', rfl⟩ := Option.map_eq_some_iff.mp h
    exact .single t sub rest d' (lookup_of_typeOfF ht) hS (by simpa using hu) (ih d' hd')
  | case9 n sub rest t ht hu hS ih =>  -- a run of repeatable blocks
    obtain ⟨d', hd', rfl⟩ := Option.map_eq_some_iff.mp h
    obtain ⟨h1, h2⟩ := takeRun_spec t rest
    have := EntriesOf.many t (sub :: (takeRun t rest).1) _ d' (by simp)
      (fun x hx => (List.mem_cons.mp hx).elim (· ▸ lookup_of_typeOfF ht) (h2 x)) (by simpa using hS) (by simpa using hu) (ih d' hd')
    rwa [List.map_cons, List.cons_append, ← h1] at this
  | case2 | case5 | case6 | case7 | case10 | case11 => cases h  -- the rejecting branches

theorem asBlock_some (t : R) (key : Tok) (children : List R) (h : asBlock t = some (key, children)) :
    t = blockTree key children := by
  unfold asBlock at h
  split at h
  · split at h
    · rename_i hd
      obtain ⟨rfl, rfl, rfl⟩ := hd
      cases h
      rfl
    · cases h
  · cases h

theorem classifyKids_sound (cfg : Cfg) (f : R → Option Fields) (hf : ∀ c sub, f c = some sub → WellRead cfg c sub)
    (cs items : List R) (h : classifyKids cfg f cs = some items) : ChildrenRead cfg cs items := by
  fun_induction classifyKids cfg f cs generalizing items with
  | case1 => cases h; exact .nil
  | case2 => cases h
  | case3 c rest ritems hr sub hc ih => cases h; exact .node c sub rest ritems (hf c sub hc) (ih ritems hr)
  | case4 c rest ritems hr hc item hm ih => cases h; exact .leaf c item rest ritems hm (ih ritems hr)
  | case5 => cases h

theorem classify_sound (cfg : Cfg) : (fuel : Nat) → (t : R) → (d : Fields) → classify cfg fuel t = some d → WellRead cfg t d
  | 0, _, _, h => by cases h
  | fuel + 1, t, d, h => by
    unfold classify at h
    split at h
    · rename_i key children ha
      cases asBlock_some t key children ha
      split at h
      · rename_i name items hv hc
        split at h
        · rename_i d' hr
          split at h
          · rename_i hl
            cases h
            simp only [levelOK, Bool.and_eq_true, List.all_eq_true, bne_iff_ne, ne_eq, decide_eq_true_eq] at hl
            exact .block key name children items d' hv (classifyKids_sound cfg _ (classify_sound cfg fuel) children items hc)
              (readEntries_sound _ _ _ _ _ hr) hl.1 hl.2
          · cases h
        · cases h
      · cases h
    · cases h

/-- **C01_classified_roundtrip** — for every tree the classifier accepts (run on the real tree of every printed document
by the harness), the transformer returns exactly the classifier's dictionary -/
theorem C01_classified_roundtrip (cfg : Cfg) (hp : cfg.pos = false) (hc : cfg.com = false) (fuel : Nat) (t : R) (d : Fields)
    (h : classify cfg fuel t = some d) : mainT cfg t = .ok (.cdict d) :=
  C01_document_roundtrip cfg hp hc (classify_sound cfg fuel t d h)

/-- the class is inhabited by real documents: `LAYER NAME "a b" CLASS NAME "c" END END` (the trees Lark builds for the
printed text), read back as the dictionary it was written from; the classifier finds the derivation -/
example (cfg : Cfg) :
    WellRead cfg (blockTree (lexTok s%"LAYER" s%"LAYER") [nameLine s%"\"a b\"", blockTree (lexTok s%"CLASS" s%"CLASS") [nameLine s%"\"c\""]])
      [(s%"__type__", .str s%"layer"), (s%"name", .str s%"a b"),
       (s%"classes", .list [.dict [(s%"__type__", .str s%"class"), (s%"name", .str s%"c")]])] :=
  classify_sound cfg 3 _ _ rfl

end Mappy.RoundTrip
