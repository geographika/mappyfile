/-
  C04 / C01 — the document-level normal form.  `normJ` (Model/Reload.lean) is the dictionary a reload gives back;
  printing it yields exactly the lines printing the original dictionary yields, for EVERY dictionary, nesting depth,
  option record and schema table: the written text is a fixed point of print ∘ reload.
-/
import Mappy.Props.C04
import Mappy.Lemmas.ReloadEq

namespace Mappy.Printer

/-- the differences C01 allows between a value and its reloaded form -/
def AllowedDiff (v w : J) : Prop :=
  w = v ∨ (∃ s, v = .str s ∧ w = .str (upper s)) ∨ (∃ n, v = .int n ∧ w = .str (intStr n)) ∨ (∃ x, v = .flt x ∧ w = .str x)

theorem normV_allowed (attr : Str) (p : CellProps) (v : J) : AllowedDiff v (normV attr p v) := by
  rcases normV_cases attr p v with h | ⟨s, hv, h, _⟩ | ⟨t, hv | ⟨n, hv, rfl⟩, h, _⟩
  · exact .inl h
  · exact .inr (.inl ⟨s, hv, h⟩)
  · exact .inr (.inr (.inr ⟨t, hv, h⟩))
  · exact .inr (.inr (.inl ⟨n, hv, h⟩))

/-- **C04_reload_value_allowed** — at EVERY keyword of every object type, under every schema table, the value a reload
gives back for a simple value is the value itself, its upper-cased form (strings only), or its decimal string (numbers
only): the model of `loads(dumps(d))` never differs from `d` in any other way at a simple keyword. -/
theorem C04_reload_value_allowed (T : Table) (ty : Option Str) (attr : Str) (v : J) : AllowedDiff v (normAt T ty attr v) := by
  unfold normAt
  split
  · exact .inl rfl
  · split
    · exact .inl rfl
    · exact normV_allowed attr _ v

theorem AllowedDiff.scalar {v w : J} (h : AllowedDiff v w) (hl : ∀ xs, v ≠ .list xs) (hd : ∀ g, v ≠ .dict g) :
    (∀ xs, w ≠ .list xs) ∧ (∀ g, w ≠ .dict g) := by
  rcases h with rfl | ⟨_, _, rfl⟩ | ⟨_, _, rfl⟩ | ⟨_, _, rfl⟩ <;> first | exact ⟨hl, hd⟩ | simp

theorem normAt_scalar (T : Table) (ty : Option Str) (attr : Str) (v : J) (hl : ∀ xs, v ≠ .list xs) (hd : ∀ g, v ≠ .dict g) :
    (∀ xs, normAt T ty attr v ≠ .list xs) ∧ (∀ g, normAt T ty attr v ≠ .dict g) :=
  (C04_reload_value_allowed T ty attr v).scalar hl hd

/-- e.g. a boolean is never touched by a reload -/
example (T : Table) (ty : Option Str) (attr : Str) (b : Bool) : normAt T ty attr (.bool b) = .bool b := by
  rcases C04_reload_value_allowed T ty attr (.bool b) with h | ⟨s, h, _⟩ | ⟨n, h, _⟩ | ⟨x, h, _⟩
  · exact h
  all_goals cases h

theorem normAt_idem (T : Table) (ty : Option Str) (a : Str) (v : J) : normAt T ty a (normAt T ty a v) = normAt T ty a v := by
  unfold normAt
  cases ty with
  | none => rfl
  | some t =>
    simp only
    cases cellOf T t a with
    | none => rfl
    | some p => simp only [C04_normV_idem]

theorem normE_scalar (T : Table) (ty : Option Str) (attr : Str) (v : J) (hl : ∀ xs, v ≠ .list xs) (hd : ∀ g, v ≠ .dict g) :
    normE T ty attr v = if isMetaKey attr || isDataKey attr then v else normAt T ty attr v :=
  normE_atom T ty attr v hl hd

/-- the tests by which the printer and the pre-pass pick a branch for an entry do not see the difference -/
theorem normE_kind (T : Table) (ty : Option Str) (a : Str) (v : J) :
    isComposite (normE T ty a v) = isComposite v ∧ isBlockValue (normE T ty a v) = isBlockValue v ∧
    ∀ k, isHiddenContainer k (normE T ty a v) = isHiddenContainer k v := by
  cases entry_view a v with
  | objs xs hm ho =>
    rw [normE_objs hm T ty xs ho]
    exact ⟨rfl, rfl, fun _ => rfl⟩
  | obj hm hd hc =>
    rw [normE_obj hm hd T ty hc]
    cases v with
    | dict g => exact ⟨isComposite_normJ T _, rfl, fun _ => rfl⟩
    | _ => cases hc
  | attr hm hd hl hg =>
    rw [normE_attr hm hd T ty hl hg]
    have h := normAt_scalar T ty a v hl hg
    exact ⟨by rw [isComposite_nondict hg, isComposite_nondict h.2],
      by rw [isBlockValue_scalar hl hg, isBlockValue_scalar h.1 h.2],
      fun k => by rw [isHiddenContainer_nonlist k hl, isHiddenContainer_nonlist k h.1]⟩
  | other hn _ =>
    rw [hn]
    exact ⟨rfl, rfl, fun _ => rfl⟩

theorem maxKeyLen_normF (T : Table) (ty : Option Str) : (f : Fields) → maxKeyLen (normF T ty f) = maxKeyLen f
  | [] => rfl
  | (a, v) :: r => by
    simp only [normF, maxKeyLen, maxKeyLen_normF T ty r, (normE_kind T ty a v).1, (normE_kind T ty a v).2.2]

theorem simple_normAt (o : Opts) (T : Table) (level : Nat) (ty : Option Str) (c : Fields) (al : Nat) (a : Str) (v : J) :
    simple o T level ty c al a (normAt T ty a v) = simple o T level ty c al a v := by
  cases ty with
  | none => rfl
  | some t =>
    simp only [simple, attrLine, normAt]
    cases cellOf T t a with
    | none => rfl
    | some p => simp only [C04_value_normal_form]

theorem entry_norm (o : Opts) (T : Table) (level : Nat) (ty : Option Str) (c : Fields) (al : Nat) (a : Str) (v : J)
    (hv : fmt o T (level + 1) (normJ T v) = fmt o T (level + 1) v)
    (hl : fmtList o T (level + 1) (normL T v.elems) = fmtList o T (level + 1) v.elems) :
    entry o T level ty c al a (normE T ty a v) = entry o T level ty c al a v := by
  cases entry_view a v with
  | objs xs hm ho =>
    rw [normE_objs hm T ty xs ho, entry_objs hm ho, entry_objs hm ho]
    exact hl
  | obj hm hd hc =>
    rw [normE_obj hm hd T ty hc, entry_obj hm hd hc, entry_obj hm hd ((isComposite_normJ T v).trans hc)]
    exact hv
  | attr hm hd hl' hg =>
    have h := normAt_scalar T ty a v hl' hg
    rw [normE_attr hm hd T ty hl' hg, entry_attr hm hd hl' hg, entry_attr hm hd h.1 h.2, simple_normAt]
  | other hn _ => rw [hn]

theorem fmt_norm_all (o : Opts) (T : Table) :
    (∀ j level, fmt o T level (normJ T j) = fmt o T level j) ∧
    (∀ f level ty c al, fmtItems o T level ty c al (normF T ty f) = fmtItems o T level ty c al f) ∧
    (∀ xs level, fmtList o T level (normL T xs) = fmtList o T level xs) := by
  refine J.induct ?_ ?_ ?_ ?_ ?_ ?_
  · intro f ih level
    simp only [normJ, fmt, typeOf_normF, commentsOf, lookup_normF T _ _ isMeta_comments, alignedOf, maxKeyLen_normF, wrapObj,
      lookup_normF T _ _ isMeta_type, ih]
  · exact fun j hj level => by rw [normJ_atom T hj]
  · exact fun _ _ _ _ => rfl
  · intro k v r hv hl hr level ty c al
    rw [normF, fmtItems_cons, fmtItems_cons, hr, entry_norm o T level ty c al k v (hv _) (hl _)]
  · exact fun _ => rfl
  · intro x r hx hr level
    simp only [normL, fmtList, hx, hr]

theorem fmt_norm (o : Opts) (T : Table) : (j : J) → (level : Nat) → fmt o T level (normJ T j) = fmt o T level j :=
  (fmt_norm_all o T).1
theorem fmtItems_norm (o : Opts) (T : Table) : (f : Fields) → (level : Nat) → (ty : Option Str) → (c : Fields) → (al : Nat) →
    fmtItems o T level ty c al (normF T ty f) = fmtItems o T level ty c al f :=
  (fmt_norm_all o T).2.1
theorem fmtList_norm (o : Opts) (T : Table) : (xs : List J) → (level : Nat) → fmtList o T level (normL T xs) = fmtList o T level xs :=
  (fmt_norm_all o T).2.2

theorem separateComplex_normF (T : Table) (ty : Option Str) (level : Nat) (f : Fields) :
    separateComplex level (normF T ty f) = normF T ty (separateComplex level f) := by
  have h : ∀ kv : Str × J, isComplexType level kv.1 (normE T ty kv.1 kv.2) = isComplexType level kv.1 kv.2 := fun kv => by
    simp only [isComplexType, (normE_kind T ty kv.1 kv.2).2.1, (normE_kind T ty kv.1 kv.2).2.2]
  simp only [separateComplex, normF_map, List.filter_map, List.map_append, Function.comp_def, h]

theorem sepVal_norm (T : Table) (ty : Option Str) (level : Nat) (a : Str) (v : J)
    (hv : sepTree (level + 1) (normJ T v) = normJ T (sepTree (level + 1) v))
    (hl : sepList (level + 1) (normL T v.elems) = normL T (sepList (level + 1) v.elems)) :
    sepVal level a (normE T ty a v) = normE T ty a (sepVal level a v) := by
  cases entry_view a v with
  | objs xs hm ho =>
    rw [normE_objs hm T ty xs ho, sepVal_objs hm _ _ ho, sepVal_objs hm _ _ ho, normE_objs hm T ty _ ho]
    exact congrArg J.list hl
  | obj hm hd hc =>
    rw [normE_obj hm hd T ty hc, sepVal_obj hm hd hc, sepVal_obj hm hd ((isComposite_normJ T v).trans hc), hv,
      normE_obj hm hd T ty ((isComposite_sepTree _ v).trans hc)]
  | attr hm hd hl' hg =>
    have h := normAt_scalar T ty a v hl' hg
    rw [normE_attr hm hd T ty hl' hg, sepVal_scalar level a h.1 h.2, sepVal_scalar level a hl' hg,
      normE_attr hm hd T ty hl' hg]
  | other hn hs => rw [hn, hs, hn]

theorem sepTree_norm_all (T : Table) :
    (∀ j level, sepTree level (normJ T j) = normJ T (sepTree level j)) ∧
    (∀ f level ty, sepFields level (normF T ty f) = normF T ty (sepFields level f)) ∧
    (∀ xs level, sepList level (normL T xs) = normL T (sepList level xs)) := by
  refine J.induct ?_ ?_ ?_ ?_ ?_ ?_
  · intro f ih level
    simp only [normJ, sepTree, ih, separateComplex_normF, typeOf_sep]
  · exact fun j hj level => by rw [normJ_atom T hj, sepTree_atom level hj, normJ_atom T hj]
  · exact fun _ _ => rfl
  · intro k v r hv hl hr level ty
    rw [normF, sepFields_cons, sepFields_cons, normF, hr, sepVal_norm T ty level k v (hv _) (hl _)]
  · exact fun _ => rfl
  · intro x r hx hr level
    simp only [normL, sepList, hx, hr]

theorem sepTree_norm (T : Table) : (j : J) → (level : Nat) → sepTree level (normJ T j) = normJ T (sepTree level j) :=
  (sepTree_norm_all T).1
theorem sepFields_norm (T : Table) : (f : Fields) → (level : Nat) → ∀ ty, sepFields level (normF T ty f) = normF T ty (sepFields level f) :=
  (sepTree_norm_all T).2.1
theorem sepList_norm (T : Table) : (xs : List J) → (level : Nat) → sepList level (normL T xs) = normL T (sepList level xs) :=
  (sepTree_norm_all T).2.2

theorem normRoot_type (T : Table) (f : Fields) :
    ∃ g, normRoot T (.dict f) = .dict g ∧ lookup s%"__type__" g = lookup s%"__type__" f := by
  rw [normRoot_eq]
  split
  · exact ⟨_, rfl, lookup_normF T _ _ isMeta_type f⟩
  · exact ⟨f, rfl, rfl⟩

theorem go_norm (o : Opts) (T : Table) : (rs : List J) → pprintLines.go o T (rs.map (normRoot T)) = pprintLines.go o T rs
  | [] => rfl
  | x :: r => by
    rw [List.map_cons, go_cons, go_cons, go_norm o T r, normRoot_eq]
    cases h : isFmtRoot x
    · rfl
    · rw [if_pos rfl, rootLines_fmt h, rootLines_fmt ((isFmtRoot_normJ T x).trans h), fmt_norm]

theorem sepRoot_normRoot (T : Table) (x : J) : sepRoot (normRoot T x) = normRoot T (sepRoot x) := by
  rw [normRoot_eq, sepRoot_eq x]
  cases h : isFmtRoot x
  · simp only [Bool.false_eq_true, if_false, sepRoot_eq, normRoot_eq, h]
  · simp only [if_true, sepRoot_eq, normRoot_eq, isFmtRoot_normJ, isFmtRoot_sepTree, h, sepTree_norm]

theorem rootsOf_normDoc (T : Table) (c : J) :
    rootsOf (normDoc T c) = (match rootsOf c with | .error e => .error e | .ok rs => .ok (rs.map (normRoot T))) := by
  cases c with
  | dict f =>
    cases f with
    | nil => rfl
    | cons kv r =>
      obtain ⟨k, v⟩ := kv
      show rootsOf (normRoot T (.dict ((k, v) :: r))) = .ok [normRoot T (.dict ((k, v) :: r))]
      rw [normRoot_eq]
      split <;> rfl
  | _ => rfl

/-- **C04_document_normal_form** — for EVERY dictionary or list of root dictionaries, EVERY option record (with or without
`separate_complex_types`) and every schema table: printing the dictionary a reload gives back (`normDoc`: enumerated words
upper-cased, numbers at string-typed keywords as strings — at every simple keyword of every object, any depth) yields
exactly the text printing the original yields, or the same error.  With the `reload` correspondence
(`loads(dumps(d)) = normDoc d` on the real code) this is `dumps(loads(dumps(d))) = dumps(d)`. -/
theorem C04_document_normal_form (o : Opts) (T : Table) (c : J) :
    pprint o T (normDoc T c) = pprint o T c := by
  unfold pprint
  congr 1
  rw [pprintLines_roots, pprintLines_roots, rootsOf_normDoc]
  cases rootsOf c with
  | error e => rfl
  | ok rs =>
    have hm : (rs.map (normRoot T)).map sepRoot = (rs.map sepRoot).map (normRoot T) := by
      simp only [List.map_map, Function.comp_def, sepRoot_normRoot]
    cases o.sepComplex <;> simp only [if_true, if_false, Bool.false_eq_true, hm, go_norm]

theorem normE_idem (T : Table) (ty : Option Str) (a : Str) (v : J) (hv : normJ T (normJ T v) = normJ T v)
    (hl : normL T (normL T v.elems) = normL T v.elems) : normE T ty a (normE T ty a v) = normE T ty a v := by
  cases entry_view a v with
  | objs xs hm ho =>
    rw [normE_objs hm T ty xs ho, normE_objs hm T ty _ ho]
    exact congrArg J.list hl
  | obj hm hd hc => rw [normE_obj hm hd T ty hc, normE_obj hm hd T ty ((isComposite_normJ T v).trans hc), hv]
  | attr hm hd hl' hg =>
    have h := normAt_scalar T ty a v hl' hg
    rw [normE_attr hm hd T ty hl' hg, normE_attr hm hd T ty h.1 h.2, normAt_idem]
  | other hn _ => rw [hn, hn]

theorem normJ_idem_all (T : Table) :
    (∀ j, normJ T (normJ T j) = normJ T j) ∧ (∀ f ty, normF T ty (normF T ty f) = normF T ty f) ∧
    (∀ xs, normL T (normL T xs) = normL T xs) := by
  refine J.induct ?_ ?_ ?_ ?_ ?_ ?_
  · exact fun f ih => by simp only [normJ, typeOf_normF, ih]
  · exact fun j hj => by rw [normJ_atom T hj, normJ_atom T hj]
  · exact fun _ => rfl
  · exact fun k v r hv hl hr ty => by rw [normF, normF, hr, normE_idem T ty k v hv hl]
  · rfl
  · exact fun x r hx hr => by simp only [normL, hx, hr]

theorem normJ_idem (T : Table) : (j : J) → normJ T (normJ T j) = normJ T j := (normJ_idem_all T).1
theorem normF_idem (T : Table) : (f : Fields) → ∀ ty, normF T ty (normF T ty f) = normF T ty f := (normJ_idem_all T).2.1
theorem normL_idem (T : Table) : (xs : List J) → normL T (normL T xs) = normL T xs := (normJ_idem_all T).2.2

theorem normRoot_idem (T : Table) (x : J) : normRoot T (normRoot T x) = normRoot T x := by
  rw [normRoot_eq T x]
  cases h : isFmtRoot x
  · simp only [Bool.false_eq_true, if_false, normRoot_eq, h]
  · simp only [if_true, normRoot_eq, isFmtRoot_normJ, h, normJ_idem]

/-- **C04_reload_idem** — the dictionary a reload gives back is a fixed point of reloading: for EVERY dictionary or list of
roots, `normDoc (normDoc d) = normDoc d` (with the `reload` correspondence: `loads(dumps(loads(dumps d))) = loads(dumps d)`,
i.e. `loads(t) = loads(dumps(loads(t)))` for every written text `t`) -/
theorem C04_reload_idem (T : Table) (c : J) : normDoc T (normDoc T c) = normDoc T c := by
  cases c with
  | dict f =>
    obtain ⟨g, hg, _⟩ := normRoot_type T f
    have := normRoot_idem T (.dict f)
    simp only [normDoc, hg] at this ⊢
    exact this
  | list xs => simp [normDoc, List.map_map, Function.comp_def, normRoot_idem]
  | _ => rfl

theorem normF_keys (T : Table) (ty : Option Str) (f : Fields) : (normF T ty f).map Prod.fst = f.map Prod.fst := by
  rw [normF_map]
  simp [List.map_map, Function.comp_def]

theorem normL_length (T : Table) : (xs : List J) → (normL T xs).length = xs.length
  | [] => by simp [normL]
  | x :: r => by simp [normL, normL_length T r]

/-- **C04_reload_keys** — for EVERY dictionary: the dictionary a reload gives back is a dictionary with exactly the same
keys in exactly the same order (nothing added, dropped, renamed or re-ordered at the root object; `normF_keys` is the same
statement for every nested object), and a list of roots comes back as a list of the same length (`C04_reload_roots`).  With
the `reload` correspondence this is the key half of C01's "same keys". -/
theorem C04_reload_keys (T : Table) (f : Fields) :
    ∃ g, normDoc T (.dict f) = .dict g ∧ g.map Prod.fst = f.map Prod.fst := by
  show ∃ g, normRoot T (.dict f) = .dict g ∧ _
  rw [normRoot_eq]
  split
  · exact ⟨_, rfl, normF_keys T _ f⟩
  · exact ⟨f, rfl, rfl⟩

theorem C04_reload_roots (T : Table) (xs : List J) :
    ∃ ys, normDoc T (.list xs) = .list ys ∧ ys.length = xs.length :=
  ⟨xs.map (normRoot T), rfl, by simp⟩

/-- non-vacuity: a root object with two keys keeps them -/
example (T : Table) : ∃ g, normDoc T (.dict [(s%"__type__", .str s%"map"), (s%"name", .str s%"x")]) = .dict g ∧
    g.map Prod.fst = [s%"__type__", s%"name"] := C04_reload_keys T _

end Mappy.Printer
