/-
  C02 — the documented text → dict contract.
  Theorems about Model/Transformer.lean (tied to transformer.py by the `transform` correspondence on the real Lark
  tree of every generated document; the oracle compares real `loads` with the dictionary the documentation promises).
-/
import Mappy.Model.Transformer
import Mappy.Lemmas.Quoter
import Mappy.Lemmas.TransformerSim
import Mappy.Props.C08

namespace Mappy.Transformer

/-- quoted strings lose exactly their outer quotes … -/
theorem C02_quotes_outer_only (q : Char) (hq : q = '"' ∨ q = '\'') (s : Str) :
    cleanString (q :: s ++ [q]) = s := by
  have hin : Quoter.inQuotes '"' (Quoter.addQuotes q s) = true := by
    unfold Quoter.inQuotes
    rcases hq with rfl | rfl
    · rw [Quoter.inQuotesC_addQuotes]; rfl
    · rw [show Quoter.altquote '"' = '\'' from rfl, Quoter.inQuotesC_addQuotes, Bool.or_true]
  show Quoter.removeQuotes '"' (Quoter.addQuotes q s) = s
  rw [Quoter.removeQuotes, if_pos hin, Quoter.middle_addQuotes]

/-- … and a bare word is stored as written -/
theorem C02_bare_unchanged (s : Str) (h : Quoter.inQuotes '"' s = false) : cleanString s = s := by
  simp [cleanString, Quoter.removeQuotes, h]

/-- TRUE / FALSE become booleans -/
theorem C02_booleans (cfg : Cfg) (cm : Option (List Str)) (t : Tok) :
    callback cfg s%"true" cm [.tok t] = .ok (.tok { t with val := .bool true }) ∧
    callback cfg s%"false" cm [.tok t] = .ok (.tok { t with val := .bool false }) := ⟨rfl, rfl⟩

/-- integers become ints (Python `int(lexeme)`), whatever the sign spelling -/
theorem C02_ints (cfg : Cfg) (cm : Option (List Str)) (t : Tok) (s : Str) (n : Int) (hv : t.val = .str s) (hp : parseInt s = some n) :
    callback cfg s%"int" cm [.tok t] = .ok (.tok { t with val := .int n }) := by
  show (match t.val with
    | .str s => (match parseInt s with | some n => pure (.tok { t with val := .int n }) | none => .error .valueError)
    | _ => .error .typeError : Res R) = _
  rw [hv]; simp only [hp]; rfl

example : parseInt s%"-07" = some (-7) ∧ parseInt s%"+12" = some 12 ∧ parseInt s%"300" = some 300 := by decide

/-- hex colours lose their quotes and are lower-cased -/
theorem C02_hex_lower (cfg : Cfg) (cm : Option (List Str)) (t : Tok) (s : Str) (hv : t.val = .str s) :
    callback cfg s%"hexcolor" cm [.tok t] = .ok (.tok { t with val := .str (lower (cleanString s)) }) := by
  show (strVal t >>= fun s => pure (.tok { t with val := .str (lower (cleanString s)) }) : Res R) = _
  rw [strVal, hv]; rfl

theorem typeKey_underscored : underscored s%"__type__" = true := by decide

theorem plural_ne_type (k : Str) : s%"__type__" ≠ plural k := by
  intro e
  have h1 := plural_getLast k
  rw [← e] at h1
  revert h1; decide

theorem appendTo_writes {k : Str} {v : J} {d d' : Fields} (h : appendTo k v d = .ok d') : ∃ w, d' = setKey k w d := by
  unfold appendTo at h
  split at h
  · exact ⟨_, (Except.ok.inj h).symm⟩
  · exact ⟨_, (Except.ok.inj h).symm⟩
  · cases h

theorem dataStep_writes {Rp : List Str} {key : Str} {v : J} {d d' : Fields} (h : dataStep Rp key v d = .ok d') :
    ∃ w, d' = setKey key w d := by
  unfold dataStep at h
  split at h
  · split at h
    · split at h
      · cases h
      · split at h
        · exact ⟨_, (Except.ok.inj h).symm⟩
        · exact ⟨_, (Except.ok.inj h).symm⟩
        · cases h
    · cases h
  · split at h
    · split at h
      · exact ⟨_, (Except.ok.inj h).symm⟩
      · split at h
        · exact ⟨_, (Except.ok.inj h).symm⟩
        · cases h
    · split at h
      · exact appendTo_writes h
      · exact ⟨_, (Except.ok.inj h).symm⟩

/-- the key a block of type `k'` is stored under -/
def slot (S : List Str) (k' : Str) : Str := if S.contains k' then k' else plural k'

def typeOf (sub : Fields) : Option Str :=
  match lookup s%"__type__" sub with
  | some (.str k) => some k
  | _ => none

theorem blockItem_spec (S : List Str) (sub d d' : Fields) (h : blockItem S sub d = .ok d') :
    ∃ k', typeOf sub = some k' ∧ underscored k' = false ∧
      (if S.contains k' then d' = setKey k' (.dict sub) d else appendTo (plural k') (.dict sub) d = .ok d') := by
  unfold blockItem at h
  split at h
  · rename_i k' hl
    split at h
    · cases h
    · rename_i hu
      refine ⟨k', by simp [typeOf, hl], by simpa using hu, ?_⟩
      split at h
      · rename_i hs; rw [if_pos hs]; exact (Except.ok.inj h).symm
      · rename_i hs; rw [if_neg hs]; exact h
  · cases h
  · cases h

theorem dItem_writes {S Rp : List Str} {d d' : Fields} {r : R} (h : dItem S Rp d r = .ok d') :
    ∃ K w, s%"__type__" ≠ K ∧ d' = setKey K w d := by
  cases r with
  | cdict sub =>
    obtain ⟨k, _, hu, hstep⟩ := blockItem_spec S sub d d' h
    split at hstep
    · exact ⟨k, _, ne_of_underscored hu typeKey_underscored, hstep⟩
    · obtain ⟨w, hw⟩ := appendTo_writes hstep
      exact ⟨_, w, plural_ne_type k, hw⟩
  | adict kvs =>
    simp only [dItem] at h
    split at h
    · rename_i key v pos hp
      obtain ⟨w, hw⟩ := dataStep_writes h
      exact ⟨key, w, ne_of_underscored (attrParts_guard kvs key v pos hp).1 typeKey_underscored, hw⟩
    · cases h
  | tok _ | seq _ _ | str _ | tree _ _ _ => cases h

theorem compositeItem_head (cfg : Cfg) (S Rp : List Str) (st st' : CState) (r : R) (tv : J) (rest : Fields)
    (hd : st.d = (s%"__type__", tv) :: rest) (h : compositeItem cfg S Rp st r = .ok st') :
    ∃ rest', st'.d = (s%"__type__", tv) :: rest' := by
  obtain ⟨K, w, hne, hw⟩ := dItem_writes (compositeItem_d h)
  exact ⟨_, by rw [hw, hd, setKey_cons_ne _ _ _ _ _ hne]⟩

theorem foldlM_head (cfg : Cfg) (S Rp : List Str) (tv : J) : (items : List R) → ∀ (st st' : CState) (rest : Fields),
    st.d = (s%"__type__", tv) :: rest → items.foldlM (compositeItem cfg S Rp) st = .ok st' →
    ∃ rest', st'.d = (s%"__type__", tv) :: rest' :=
  fun items st st' rest hd h =>
    foldlM_inv (fun st => ∃ rest, st.d = (s%"__type__", tv) :: rest)
      (fun st r st1 ⟨rest, hd⟩ h1 => compositeItem_head cfg S Rp st st1 r tv rest hd h1) items st st' ⟨rest, hd⟩ h

/-- **C02_type_tag** — every block (any type token, any items, any flags) becomes a dict whose first entry is
`__type__` = the lower-cased block keyword -/
theorem C02_type_tag (cfg : Cfg) (S Rp : List Str) (key : Tok) (items : List R) (d : Fields)
    (h : compositeBody cfg S Rp key items = .ok (.cdict d)) :
    ∃ kn rest, valLower key = .ok kn ∧ d = (s%"__type__", .str kn) :: rest := by
  obtain ⟨kn, st, hk, hf, hr⟩ := compositeBody_ok h
  cases hr
  have h0 : ∃ rest, (initState cfg kn key).d = (s%"__type__", .str kn) :: rest := by
    unfold initState; cases cfg.pos <;> cases cfg.com <;> exact ⟨_, rfl⟩
  obtain ⟨rest0, hd0⟩ := h0
  obtain ⟨rest', hd'⟩ := foldlM_head cfg S Rp (.str kn) items _ st rest0 hd0 hf
  refine ⟨kn, (finishState cfg st).tail, hk, ?_⟩
  have hp : s%"__type__" ≠ posKey := by decide
  have hc : s%"__type__" ≠ comKey := by decide
  unfold finishState
  cases hpd : st.pd <;> cases hcom : cfg.com <;>
    simp [hd', setKey_cons_ne _ _ _ _ _ hp, setKey_cons_ne _ _ _ _ _ hc]

theorem appendTo_spec (k : Str) (v : J) (d d' : Fields) (h : appendTo k v d = .ok d') :
    (lookup k d' = some (.list ((match lookup k d with | some (.list xs) => xs | _ => []) ++ [v]))) ∧
    (∀ k', k' ≠ k → lookup k' d' = lookup k' d) := by
  unfold appendTo at h
  split at h
  · rename_i hl
    cases h
    exact ⟨by simp [lookup_setKey, hl], fun k' hk => by simp [lookup_setKey, hk]⟩
  · rename_i xs hl
    cases h
    exact ⟨by simp [lookup_setKey, hl], fun k' hk => by simp [lookup_setKey, hk]⟩
  · cases h

def valuesOf (K : Str) : List (Str × J × J) → List J
  | [] => []
  | (k, v, _) :: r => if k = K then v :: valuesOf K r else valuesOf K r

theorem dataStep_frame (Rp : List Str) (key K : Str) (v : J) (d d' : Fields) (hne : K ≠ key)
    (h : dataStep Rp key v d = .ok d') : lookup K d' = lookup K d := by
  obtain ⟨w, rfl⟩ := dataStep_writes h
  rw [lookup_setKey, if_neg hne]

/-- **C02_repeated_in_order** — PROCESSING / FORMATOPTION / COMPFILTER / INCLUDE (the REPEATED_KEYS): after any run of
simple attributes, the list stored under a repeated keyword is what was there before followed by ALL values given
for it, in source order — nothing dropped, nothing reordered, other keywords' values not mixed in; a keyword not
mentioned in the run keeps what it had. -/
theorem C02_repeated_in_order (cfg : Cfg) (Rp : List Str) (K : Str) (hK : Rp.contains K = true)
    (hc : K ≠ s%"config") (hp : K ≠ s%"points") :
    (items : List (Str × J × J)) → ∀ (st st' : CState), steps cfg Rp items st = .ok st' →
    lookup K st'.d = match valuesOf K items with
      | [] => lookup K st.d
      | vs => some (.list ((match lookup K st.d with | some (.list xs) => xs | _ => []) ++ vs)) := by
  intro items st st' h
  fun_induction steps cfg Rp items st with
  | case1 st => cases h; simp [valuesOf]
  | case2 k v p r st st1 h1 ih =>
    have hd1 := attrItem_data cfg Rp st st1 k v p none h1
    by_cases hkK : k = K
    · subst hkK
      rw [dataStep_repeated hK hc hp] at hd1
      simp only [valuesOf, if_true]
      rw [ih h, (appendTo_spec k v st.d st1.d hd1).1]
      cases valuesOf k r <;> simp
    · simp only [valuesOf, hkK, if_false]
      rw [ih h, dataStep_frame Rp k K v st.d st1.d (Ne.symm hkK) hd1]
  | case3 => cases h

/-- the run of `composite` over nested blocks -/
def blockSteps (S : List Str) : List Fields → Fields → Res Fields
  | [], d => .ok d
  | sub :: r, d =>
    match blockItem S sub d with
    | .ok d' => blockSteps S r d'
    | .error e => .error e

def blocksOf (k : Str) : List Fields → List J
  | [] => []
  | sub :: r => if typeOf sub = some k then .dict sub :: blocksOf k r else blocksOf k r

/-- **C02_plural_in_order** — repeatable blocks (LAYER, CLASS, STYLE, …): after any run of nested blocks, the list
under `plural k` is what was there before followed by ALL blocks of type `k`, in source order; blocks of other types
(stored under other keys) do not touch it. -/
theorem C02_plural_in_order (S : List Str) (k : Str) (hk : S.contains k = false) :
    (subs : List Fields) → (∀ sub ∈ subs, ∀ k', typeOf sub = some k' → k' ≠ k → slot S k' ≠ plural k) →
    ∀ (d d' : Fields), blockSteps S subs d = .ok d' →
    lookup (plural k) d' = match blocksOf k subs with
      | [] => lookup (plural k) d
      | bs => some (.list ((match lookup (plural k) d with | some (.list xs) => xs | _ => []) ++ bs)) := by
  intro subs hall d d' h
  fun_induction blockSteps S subs d with
  | case1 d => cases h; simp [blocksOf]
  | case2 sub r d d1 h1 ih =>
    have ih := ih (fun s hs => hall s (by simp [hs])) h
    obtain ⟨k', ht, _, hstep⟩ := blockItem_spec S sub d d1 h1
    by_cases hkk : k' = k
    · subst hkk
      simp only [hk, Bool.false_eq_true, if_false] at hstep
      simp only [blocksOf, ht, if_true]
      rw [ih, (appendTo_spec (plural k') (.dict sub) d d1 hstep).1]
      cases blocksOf k' r <;> simp
    · have hslot := hall sub (by simp) k' ht hkk
      have hne : typeOf sub ≠ some k := by rw [ht]; intro e; injection e with e; exact hkk e
      simp only [blocksOf, hne, if_false]
      have hfr : lookup (plural k) d1 = lookup (plural k) d := by
        unfold slot at hslot
        by_cases hs : S.contains k' = true
        · simp only [hs, if_true] at hstep hslot
          subst hstep; simp [lookup_setKey, Ne.symm hslot]
        · simp only [hs, Bool.false_eq_true, if_false] at hstep hslot
          exact (appendTo_spec _ _ d d1 hstep).2 _ (Ne.symm hslot)
      rw [ih, hfr]
  | case3 => cases h

/-- **C02_singleton_nested** — a singleton block (WEB, LEGEND, METADATA, …) is nested as a dict under its own name -/
theorem C02_singleton_nested (S : List Str) (sub d d' : Fields) (k : Str) (ht : typeOf sub = some k)
    (hs : S.contains k = true) (h : blockItem S sub d = .ok d') : lookup k d' = some (.dict sub) := by
  obtain ⟨k', ht', _, hstep⟩ := blockItem_spec S sub d d' h
  rw [ht] at ht'; injection ht' with e; subst e
  simp only [hs, if_true] at hstep
  subst hstep; simp [lookup_setKey]

/-- METADATA / VALIDATION / VALUES / CONNECTIONOPTIONS keys are lower-cased and unquoted, values only unquoted -/
theorem C02_kv_pair (a b : Tok) (ka vb : Str) (ha : a.val = .str ka) (hb : b.val = .str vb)
    (hu : underscored (lower (cleanString ka)) = false) :
    pairKV (.seq false [.tok a, .tok b]) = .ok (lower (cleanString ka), .str (cleanString vb)) := by
  rw [pairKV_toks false a b ka vb [] ha hb, hu]
  rfl

/-- non-vacuity: two PROCESSING values around a NAME, in order -/
example : valuesOf s%"processing" [(s%"processing", .str s%"A=1", .null), (s%"name", .str s%"x", .null),
    (s%"processing", .str s%"B=2", .null)] = [.str s%"A=1", .str s%"B=2"] := by decide

end Mappy.Transformer
