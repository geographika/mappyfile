/-
  C08 — recorded positions and validation error locations are exact.
  Theorems about Model/Transformer.lean (positions recorded by `attr` / `composite`) and Model/Validator.lean
  (`create_message`: which recorded position a validation message carries).
-/
import Mappy.Model.Validator
import Mappy.Lemmas.TransformerEqs

namespace Mappy.Transformer

/-- **C08_attr_position** — for every keyword token and every non-empty list of value tokens, the dict `attr` returns
records the keyword token's line and column and the value tokens' positions in source order (CONFIG's two tokens are
recorded the same way through `config`). -/
theorem C08_attr_position (k : Tok) (ts : List Tok) (hts : ts ≠ []) (r : R)
    (hcfg : valLower k ≠ .ok s%"config") (h : attr (.tok k :: ts.map .tok) = .ok r) :
    ∃ kvs, r = .adict kvs ∧ lookupAV posKey kvs = some (.j (attrPos k ts)) := by
  obtain ⟨kn, hk, hu⟩ := attr_key_ok h
  cases ts with
  | nil => exact absurd rfl hts
  | cons t rest =>
    cases rest with
    | nil => cases (attr_one k t kn hk hu).symm.trans h; exact ⟨_, rfl, rfl⟩
    | cons t2 rest =>
      cases (attr_many k (t :: t2 :: rest) kn hk hu (fun e => hcfg (e ▸ hk)) (by simp)).symm.trans h
      exact ⟨_, rfl, rfl⟩

/-- a keyword that takes the plain-assignment branch of `composite` -/
def plainKey (Rp : List Str) (key : Str) : Prop := key ≠ s%"config" ∧ key ≠ s%"points" ∧ Rp.contains key = false

theorem dataStep_plain (Rp : List Str) (key : Str) (v : J) (d : Fields) (hp : plainKey Rp key) :
    dataStep Rp key v d = .ok (setKey key v d) := by
  unfold dataStep
  rw [if_neg hp.1, if_neg hp.2.1, hp.2.2]; rfl

theorem posStep_plain (Rp : List Str) (key : Str) (v pos : J) (pd : Fields) (hp : plainKey Rp key) :
    posStep Rp key v pos pd = .ok (setKey key pos pd) := by
  unfold posStep
  rw [if_neg hp.1, if_neg hp.2.1, hp.2.2]; rfl

/-- the run of `composite` over simple attributes `(key, value, position)` -/
def steps (cfg : Cfg) (Rp : List Str) : List (Str × J × J) → CState → Res CState
  | [], st => .ok st
  | (k, v, p) :: r, st =>
    match attrItem cfg Rp st k v p none with
    | .ok st' => steps cfg Rp r st'
    | .error e => .error e

def lastOcc (key : Str) : List (Str × J × J) → Option (J × J)
  | [] => none
  | (k, v, p) :: r =>
    match lastOcc key r with
    | some x => some x
    | none => if k = key then some (v, p) else none

/-- **C08_last_occurrence** — for every sequence of plain keywords hoisted into a block that records positions: the
value stored under a key and the position stored under it both come from the *last* occurrence of that keyword
(so a validation message about the stored value points at the occurrence that supplied it). -/
theorem C08_last_occurrence (cfg : Cfg) (Rp : List Str) (key : Str) :
    (items : List (Str × J × J)) → (∀ it ∈ items, plainKey Rp it.1) → ∀ (st st' : CState) (pd : Fields),
    st.pd = some pd → steps cfg Rp items st = .ok st' →
    ∃ pd', st'.pd = some pd' ∧
      match lastOcc key items with
      | some (v, p) => lookup key st'.d = some v ∧ lookup key pd' = some p
      | none => lookup key st'.d = lookup key st.d ∧ lookup key pd' = lookup key pd := by
  intro items hall st st' pd hpd h
  fun_induction steps cfg Rp items st generalizing pd with
  | case1 st => cases h; exact ⟨pd, hpd, by simp [lastOcc]⟩
  | case2 k v p r st st1 h1 ih =>
    have hp := hall (k, v, p) (by simp)
    simp only [attrItem, dataStep_plain Rp k v st.d hp, hpd, posStep_plain Rp k v p pd hp] at h1
    cases h1
    obtain ⟨pd', hpd', hrest⟩ := ih (fun it hi => hall it (by simp [hi])) (setKey k p pd) rfl h
    refine ⟨pd', hpd', ?_⟩
    simp only [lastOcc]
    cases hl : lastOcc key r with
    | some x => simp only [hl] at hrest; exact hrest
    | none =>
      simp only [hl] at hrest
      by_cases hk : k = key
      · subst hk
        simp only [if_true]
        rw [hrest.1, hrest.2]
        simp [lookup_setKey]
      · simp only [hk, if_false]
        rw [hrest.1, hrest.2]
        simp [lookup_setKey, Ne.symm hk]
  | case3 => cases h

/-- the block's own record starts as its type token's line and column -/
theorem C08_block_position (cfg : Cfg) (kn : Str) (key : Tok) (hp : cfg.pos = true) :
    (initState cfg kn key).pd = some [(s%"line", key.line), (s%"column", key.col)] := by
  simp [initState, hp, posBase]

end Mappy.Transformer

namespace Mappy.Validator
open DictUtils (PathEl findkey)

/-- **C08_message_keyword** — an error on a keyword: the message names the keyword and carries the position recorded
for it in the enclosing object -/
theorem C08_message_keyword (root : J) (pre : List PathEl) (k : Str) (d pd p : Fields)
    (hd : findkey true root pre = .ok (.dict d)) (hpd : lookup posKey d = some (.dict pd))
    (hk : lookup k pd = some (.dict p)) :
    createMessage root (pre ++ [.key k]) = .ok ⟨k, some (lineCol p)⟩ := by
  have hk' : hasKey k pd = true := by simp [hasKey, hk]
  simp [createMessage, target, position, hd, hpd, hk, hk']

/-- **C08_message_object** — an error on an object of a list (unknown / missing keyword in a LAYER, CLASS …): the
message names the object's type and carries the object's own opening position -/
theorem C08_message_object (root : J) (pre : List PathEl) (i : Int) (t : Str) (d pd : Fields)
    (hd : findkey true root (pre ++ [.idx i]) = .ok (.dict d)) (ht : lookup typeKey d = some (.str t))
    (hpd : lookup posKey d = some (.dict pd)) (hk : hasKey t pd = false) :
    createMessage root (pre ++ [.idx i]) = .ok ⟨t, some (lineCol pd)⟩ := by
  simp [createMessage, target, position, hd, ht, hpd, hk]

/-- **C08_message_nested_block** — an error on a nested singleton block (WEB, LEGEND, METADATA …): the message names
the block and carries the block's own opening position, not its parent's -/
theorem C08_message_nested_block (root : J) (pre : List PathEl) (k : Str) (d pd child cpd : Fields)
    (hd : findkey true root pre = .ok (.dict d)) (hpd : lookup posKey d = some (.dict pd))
    (hk : hasKey k pd = false) (hc : lookup (lower k) d = some (.dict child))
    (hcp : lookup posKey child = some (.dict cpd)) :
    createMessage root (pre ++ [.key k]) = .ok ⟨k, some (lineCol cpd)⟩ := by
  simp [createMessage, target, position, hd, hpd, hk, hc, hcp]

/-- **C08_message_root** — an error on the root object carries the root's own position -/
theorem C08_message_root (d pd : Fields) (t : Str) (ht : lookup typeKey d = some (.str t))
    (hpd : lookup posKey d = some (.dict pd)) :
    createMessage (.dict d) [] = .ok ⟨t, some (lineCol pd)⟩ := by
  simp [createMessage, target, position, ht, hpd]

/-- one message per reported error, in order: nothing is dropped or merged -/
theorem C08_messages_length (root : J) : (paths : List (List PathEl)) → (ms : List Msg) →
    errorMessages root paths = .ok ms → ms.length = paths.length
  | [], ms, h => by simp [errorMessages] at h; subst h; rfl
  | p :: r, ms, h => by
    simp only [errorMessages] at h
    cases h1 : createMessage root p with
    | error e => simp [h1] at h
    | ok m =>
      cases h2 : errorMessages root r with
      | error e => simp [h1, h2] at h
      | ok ms' =>
        simp only [h1, h2] at h; injection h with h; subst h
        simp [C08_messages_length root r ms' h2]

end Mappy.Validator
