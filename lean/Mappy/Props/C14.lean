/-
  C14 — kept comments are verbatim, never invented or duplicated, and stay attached.
  Theorems about Model/Comments.lean (Parser._assign_comments, tied by the `assign` correspondence) and about the
  comment hoisting of Model/Transformer.lean (tied by the `transform` correspondence with include_comments on).
-/
import Mappy.Model.Comments
import Mappy.Model.Transformer
import Mappy.Lemmas.Assoc

namespace Mappy.Comments
open List

theorem insertSorted_perm (x : Nat × Str) (l : CD) : insertSorted x l ~ x :: l := by
  fun_induction insertSorted x l with
  | case1 | case2 => exact .refl _
  | case3 y r _ ih => exact (ih.cons y).trans (.swap x y r)

theorem sortCD_perm : (l : CD) → sortCD l ~ l
  | [] => Perm.refl _
  | x :: r => (insertSorted_perm x (sortCD r)).trans ((sortCD_perm r).cons x)

theorem popLE_perm (line : Nat) (cd : CD) :
    (popLE line cd).1 ++ (popLE line cd).2.map (·.2) ~ cd.map (·.2) := by
  simp only [popLE]
  have h1 := (sortCD_perm (cd.filter fun c => decide (c.1 ≤ line))).map (·.2)
  have h2 := (filter_append_perm (fun c : Nat × Str => decide (c.1 ≤ line)) cd).map (·.2)
  rw [List.map_append] at h2
  exact (h1.append_right _).trans h2

mutual
/-- a tree as the parser hands it to `_assign_comments`: no node carries comments yet -/
def clean : CT → Bool
  | .tok => true
  | .node _ _ _ cm kids => cm.isNone && cleanL kids
def cleanL : List CT → Bool
  | [] => true
  | x :: r => clean x && cleanL r
end

def allAttached (ts : List CT) : List Str := (attachedL ts).flatten

mutual
theorem attached_clean : (t : CT) → clean t = true → (attached t).flatten = []
  | .tok, _ => rfl
  | .node _ _ _ cm kids, h => by
    simp only [clean, Bool.and_eq_true, Option.isNone_iff_eq_none] at h
    simp [attached, h.1, attachedL_clean kids h.2]
theorem attachedL_clean : (ts : List CT) → cleanL ts = true → (attachedL ts).flatten = []
  | [], _ => rfl
  | x :: r, h => by
    simp only [cleanL, Bool.and_eq_true] at h
    simp [attachedL, attached_clean x h.1, attachedL_clean r h.2]
end

theorem allAttached_cons (x : CT) (r : List CT) : allAttached (x :: r) = (attached x).flatten ++ allAttached r := by
  simp [allAttached, attachedL]

/-- **C14_conservation** — for every comment dict and every forest (any depth, any mixture of node kinds, nodes with
and without line information): the comment texts attached to nodes together with those left in the dict are a
permutation of the dict's texts.  Hence no comment is invented and none is attached twice. -/
theorem C14_conservation : (cd : CD) → (kids : List CT) → cleanL kids = true →
    allAttached (assignKids cd kids).1 ++ (assignKids cd kids).2.map (·.2) ~ cd.map (·.2) := by
  -- by the induction principle of `assignKids`: its cases, with the intermediate results named (a recursion of the theorem's
  -- own would have to find a termination argument again, which is dear)
  intro cd kids h
  fun_induction assignKids cd kids with
  | case1 cd => simp [allAttached, attachedL]
  | case2 cd r r' cd' hr ih =>  -- a token
    rw [hr] at ih
    exact ih h
  | case3 cd data el cm kids r r' cd' hr ih =>  -- a node without a line
    rw [hr] at ih
    simp only [cleanL, Bool.and_eq_true] at h
    rw [allAttached_cons, attached_clean _ h.1]
    exact ih h.2
  | case4 cd data ln el cm kids r hc line cs cd1 hpop cm' k' cd2 hk r' cd3 hr ihk ihr =>  -- a node that takes comments
    rw [hk] at ihk
    rw [hr] at ihr
    simp only [cleanL, clean, Bool.and_eq_true, Option.isNone_iff_eq_none] at h
    obtain ⟨⟨rfl, hck⟩, hcr⟩ := h
    have hp := popLE_perm line cd
    rw [hpop] at hp
    have hcs : cm'.getD [] = cs := by cases cs <;> rfl
    simp only [allAttached_cons, attached, List.flatten_cons, hcs, List.append_assoc]
    exact ((Perm.append_left _ (ihr hcr)).trans (ihk hck)).append_left cs |>.trans hp
  | case5 cd data ln el cm kids r hc k' cd2 hk r' cd3 hr ihk ihr =>  -- any other node with a line
    rw [hk] at ihk
    rw [hr] at ihr
    simp only [cleanL, clean, Bool.and_eq_true, Option.isNone_iff_eq_none] at h
    obtain ⟨⟨rfl, hck⟩, hcr⟩ := h
    simp only [allAttached_cons, attached, Option.getD_none, List.flatten_cons, List.nil_append, List.append_assoc]
    exact (Perm.append_left _ (ihr hcr)).trans (ihk hck)

/-- **C14_no_invention** — every comment a node carries after assignment is the text of a comment of the dict -/
theorem C14_no_invention (cd : CD) (kids : List CT) (h : cleanL kids = true) (c : Str)
    (hc : c ∈ allAttached (assignKids cd kids).1) : c ∈ cd.map (·.2) :=
  (C14_conservation cd kids h).subset (List.mem_append_left _ hc)

/-- **C14_no_duplication** — a comment text is attached at most as often as it occurs in the dict -/
theorem C14_no_duplication (cd : CD) (kids : List CT) (h : cleanL kids = true) (c : Str) :
    (allAttached (assignKids cd kids).1).count c ≤ (cd.map (·.2)).count c := by
  have := (C14_conservation cd kids h).count_eq c
  rw [List.count_append] at this
  omega

theorem mem_insertSorted (x y : Nat × Str) : (l : CD) → (y ∈ insertSorted x l ↔ y = x ∨ y ∈ l) :=
  fun l => (insertSorted_perm x l).mem_iff.trans (by simp)

theorem mem_sortCD (y : Nat × Str) (l : CD) : y ∈ sortCD l ↔ y ∈ l := (sortCD_perm l).mem_iff

/-- **C14_node_takes_comments_up_to_its_line** — a commentable node with line `ln` takes exactly the comments still
in the dict whose line is ≤ `ln` (PROJECTION: ≤ its END line): a `#` comment at the end of a keyword's line, and
comment lines directly above it, go to that keyword; comments further down stay for later nodes. -/
theorem C14_node_takes_comments_up_to_its_line (cd : CD) (data : Str) (ln : Nat) (el : Option Nat) (kids r : List CT)
    (hc : commentable data = true) (c : Str) :
    let line := if useEndLine data then el.getD ln else ln
    (c ∈ (popLE line cd).1 ↔ ∃ k, k ≤ line ∧ (k, c) ∈ cd) ∧
    ((assignKids cd (.node data (some ln) el none kids :: r)).1.head?.map attached).map (·.head?) =
      some (some (if (popLE line cd).1.isEmpty then [] else (popLE line cd).1)) := by
  refine ⟨?_, ?_⟩
  · simp only [popLE, List.mem_map, mem_sortCD, List.mem_filter, decide_eq_true_eq]
    constructor
    · rintro ⟨⟨k, c'⟩, ⟨hm, hk⟩, rfl⟩; exact ⟨k, hk, hm⟩
    · rintro ⟨k, hk, hm⟩; exact ⟨(k, c), ⟨hm, hk⟩, rfl⟩
  · simp only [assignKids, hc, if_true]
    cases h : (popLE (if useEndLine data = true then el.getD ln else ln) cd).1 <;> simp [attached]

/-- what stays in the dict afterwards: exactly the comments below the node's line -/
theorem C14_rest_below (line : Nat) (cd : CD) (k : Nat) (c : Str) :
    (k, c) ∈ (popLE line cd).2 ↔ (k, c) ∈ cd ∧ line < k := by
  simp [popLE, List.mem_filter, Nat.not_le]

end Mappy.Comments

namespace Mappy.Transformer

/-- **C14_hoisted_verbatim** — with include_comments, the non-empty comment list of a plain keyword is stored under
that keyword in the block's `__comments__`, unchanged, whatever include_position is -/
theorem C14_hoisted_verbatim (cfg : Cfg) (Rp : List Str) (key : Str) (c : J) (cd : Fields)
    (hcom : cfg.com = true) (h1 : key ≠ s%"config") (h2 : key ≠ s%"points") (h3 : Rp.contains key = false)
    (ht : truthy c = true) : lookup key (comStep cfg Rp key (some c) cd) = some c := by
  have : ¬(key = s%"config" ∨ key = s%"points" ∨ Rp.contains key = true) := by
    rintro (h | h | h)
    · exact h1 h
    · exact h2 h
    · rw [h3] at h; cases h
  simp only [comStep, this, if_false, hcom, ht, Bool.and_self, if_true, lookup_setKey]

/-- no comments, or an empty list: nothing is stored (so nothing is printed) -/
theorem C14_no_comment_no_entry (cfg : Cfg) (Rp : List Str) (key : Str) (cd : Fields) :
    comStep cfg Rp key none cd = cd ∧ comStep cfg Rp key (some (.list [])) cd = cd := by
  constructor
  · unfold comStep
    split <;> rfl
  · unfold comStep
    split
    · rfl
    · simp [truthy]

end Mappy.Transformer
