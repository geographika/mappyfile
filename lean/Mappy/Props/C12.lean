/-
  C12 — calls are pure, history-independent and safe to run concurrently (partial: real thread schedules are CPython's).
  In this file: a memo cache shared by the threads of any schedule hands every caller the function's value
  (Model/Conc.lean, `C12_memo_schedule_transparent`); the comment dict of a parse does not depend on what the Parser object
  went through before (`C12_parser_history_independent`); and the two obligations over the AST scan of the package
  (Gen/Shared.lean): no shared mutable state, and the audited inventory of argument mutations.
-/
import Mappy.Model.Conc
import Mappy.Gen.Shared
-- the property's claim also rests on `C18_find_pure` and `C09_cache_transparent`: built (and scanned) with this file
import Mappy.Props.C18
import Mappy.Props.C09

namespace Mappy.Conc

variable {K V : Type} [DecidableEq K]

def Sound (f : K → V) (c : Cache K V) : Prop := ∀ k v, find k c = some v → v = f k

theorem step_sound (f : K → V) (c : Cache K V) (k : K) (h : Sound f c) :
    (stepMemo f c k).1 = f k ∧ Sound f (stepMemo f c k).2 := by
  unfold stepMemo
  cases hk : find k c with
  | some v => exact ⟨h k v hk, h⟩
  | none =>
    refine ⟨rfl, ?_⟩
    intro k' v' hf
    simp only [find] at hf
    split at hf
    · rename_i e; injection hf with hf; rw [← hf, e]
    · exact h k' v' hf

/-- **C12_memo_schedule_transparent** — threads that share nothing but a memo cache of a pure function: for EVERY
schedule of their atomic steps (any number of threads, any interleaving, any repetition of keys) every caller gets
exactly the function's value — the sequential result -/
theorem C12_memo_schedule_transparent (f : K → V) : (sched : List K) → (c : Cache K V) → Sound f c →
    (runMemo f c sched).1 = sched.map f
  | [], c, _ => rfl
  | k :: r, c, h => by
    obtain ⟨h1, h2⟩ := step_sound f c k h
    simp only [runMemo, List.map_cons]
    rw [C12_memo_schedule_transparent f r _ h2, h1]

theorem sound_empty (f : K → V) : Sound f ([] : Cache K V) := by intro k v h; simp [find] at h

/-- **C12_parser_history_independent** — whatever a Parser object went through before (any earlier documents, failed
or not, comments on or off), the comment dict a parse works with is built from the comments of the text being parsed
and from nothing else -/
theorem C12_parser_history_independent (st st' : PState) (lexed : List (Nat × Str)) (lo : Comments.CD → Comments.CD) :
    (parseStep true st lexed lo).2 = (parseStep true st' lexed lo).2 ∧
    (parseStep true st lexed lo).2 = some (Comments.buildDict lexed) := by
  simp [parseStep]

/-- **C12_no_shared_mutable_state** — the AST scan of the package (re-run by the translator on every check) finds no
`global` statement, no module-level container that is mutated, no class-level mutable attribute and no mutated
mutable default argument: threads using the module-level API share no mappyfile state -/
theorem C12_no_shared_mutable_state : Gen.sharedMutable = [] := by decide

/-- the audited inventory of places where a function of pprint / validator / dictutils / utils / quoter modifies an
object reachable from its own arguments, or calls a function that does.  Each direct site is allowed by the property:
`separate_complex` → `dict_move_to_end` only runs under `separate_complex_types` (excluded by the property);
`_add_type_comment` appends to the line accumulator its caller created; `create_message` writes `__comments__` only
under `add_comments` (excluded); `get_versioned_properties` prunes the *schema* it was handed, never a Mapfile
dictionary (C09 covers its sharing); `update` changes its first argument by contract (C18); `dict_move_to_end` is the
primitive behind the first.  The remaining entries are the call edges that lead there, without multiplicity (how often
a helper is called is layout). -/
def auditedMutations : List (Str × Str × Str × Nat) := [
  (s%"pprint", s%"PrettyPrinter.separate_complex", s%"call:dict_move_to_end", 0),
  (s%"pprint", s%"PrettyPrinter.pprint", s%"call:_format", 0),
  (s%"pprint", s%"PrettyPrinter._add_type_comment", s%".append", 1),
  (s%"pprint", s%"PrettyPrinter._format", s%"call:_format", 0),
  (s%"pprint", s%"PrettyPrinter._format", s%"call:separate_complex", 0),
  (s%"validator", s%"Validator.get_versioned_schema", s%"call:get_versioned_properties", 0),
  (s%"validator", s%"Validator.get_versioned_properties", s%"call:get_versioned_properties", 0),
  (s%"validator", s%"Validator.get_versioned_properties", s%"delitem", 1),
  (s%"validator", s%"Validator.get_versioned_properties", s%"setitem", 1),
  (s%"validator", s%"Validator.create_message", s%"setitem", 2),
  (s%"validator", s%"Validator.get_error_messages", s%"call:create_message", 0),
  (s%"validator", s%"Validator._get_errors", s%"call:get_error_messages", 0),
  (s%"validator", s%"Validator.validate", s%"call:_get_errors", 0),
  (s%"validator", s%"Validator.validate", s%"call:get_versioned_schema", 0),
  (s%"dictutils", s%"update", s%"call:update", 0),
  (s%"dictutils", s%"update", s%"delitem", 2),
  (s%"dictutils", s%"update", s%"setitem", 3),
  (s%"dictutils", s%"dict_move_to_end", s%".move_to_end", 1),
  (s%"utils", s%"dump", s%"call:_pprint", 0),
  (s%"utils", s%"save", s%"call:_pprint", 0),
  (s%"utils", s%"dumps", s%"call:_pprint", 0),
  (s%"utils", s%"validate", s%"call:validate", 0),
  (s%"utils", s%"_pprint", s%"call:pprint", 0),
  (s%"utils", s%"create", s%"call:get_versioned_schema", 0)]

/-- **C12_argument_mutations_audited** — the inventory the AST scan regenerates from the source (`Gen.argMutations`) is
exactly the audited one: an in-place modification of caller-owned data that is not in the list breaks it -/
theorem C12_argument_mutations_audited : Gen.argMutations = auditedMutations := by decide +kernel

end Mappy.Conc
