/-
  C04 — formatting is a deterministic normal form (idempotent).
  Theorems about Model/Quoter.lean and Model/Printer.lean (tied to quoter.py / pprint.py by the `quoter`,
  `format_value` and `pp` correspondences).  Determinism is functionality of `pprint` (a Lean function of the
  dictionary and the option record).
-/
import Mappy.Model.Printer
import Mappy.Model.Reload
import Mappy.Lemmas.Assoc
import Mappy.Lemmas.FormatValue
import Mappy.Lemmas.Quoter

namespace Mappy.Quoter

/-- **un-escaping what was just escaped gives the text back** (so a second formatting pass sees the same string) -/
theorem unesc_esc (q : Char) (hq : q ≠ '\\') : (x : Str) → unesc q (esc q x) = x
  | [] => rfl
  | c :: r => by
    rw [esc]
    split
    · rw [unesc_escaped, unesc_esc q hq r, ‹c = q›]
    · rw [unesc_cons fun h => esc_head_ne q hq r h.2, unesc_esc q hq r]

/-- **C04_escape_idem** — `escape_quotes` is idempotent: escaping already escaped output changes nothing, so a string
keeps the same spelling however often it is formatted (no backslash is gained or lost per pass) -/
theorem C04_escape_idem (q : Char) (hq : q ≠ '\\') (s : Str) :
    escapeQuotes q (escapeQuotes q s) = escapeQuotes q s := by
  unfold escapeQuotes
  by_cases h : inQuotesC q s = true
  · simp only [h, if_true, inQuotesC_addQuotes, removeQuotes_addQuotes, unesc_esc q hq]
  · simp only [h, Bool.false_eq_true, if_false]

end Mappy.Quoter

namespace Mappy.Printer
open Quoter

theorem upper_idem (s : Str) : upper (upper s) = upper s := Mappy.upper_idem s

theorem lower_upper (s : Str) : lower (upper s) = lower s := Mappy.lower_upper s

theorem endsWith_i_upper (a : Char) (s : Str) : endsWith [a, 'i'] (upper s) = false := by
  cases h : endsWith [a, 'i'] (upper s) with
  | false => rfl
  | true =>
    exfalso
    simp only [endsWith, List.isSuffixOf_iff_suffix] at h
    obtain ⟨t, ht⟩ := h
    have hm : 'i' ∈ upper s := by rw [← ht]; simp
    simp only [upper, List.mem_map] at hm
    obtain ⟨c, _, hc⟩ := hm
    exact upperC_ne_i c hc

theorem checkOptionsList_hit (q : Char) (s : Str) (os : List Opt) (h : enumHit s os = true) :
    checkOptionsList q s os = upper s ∧ checkOptionsList q (upper s) os = upper s := by
  fun_induction enumHit s os with
  | case1 => cases h
  | case2 o r h1 =>  -- the word is listed
    have : lower s ≠ s%"end" := by simpa using h
    simp [checkOptionsList, lower_upper, upper_idem, h1, this]
  | case3 => cases h
  | case4 o r h1 h2 ih =>  -- on to the next alternative
    have h2' : (o.isExpr && (endsWith s%"'i" (upper s) || endsWith s%"\"i" (upper s))) = false := by
      rw [endsWith_i_upper, endsWith_i_upper]; simp
    simpa only [checkOptionsList, lower_upper, h1, h2, h2', Bool.false_eq_true, if_false] using ih h

theorem normV_cases (attr : Str) (p : CellProps) (v : J) :
    normV attr p v = v ∨
    (∃ s, v = .str s ∧ normV attr p v = .str (upper s) ∧
      ((p.hasEnum = true ∧ attr ≠ s%"compop") ∨
       (p.hasEnum = false ∧ p.typeString = false ∧ optsEnum attr p.opts s = true))) ∨
    (∃ t, (v = .flt t ∨ ∃ n, v = .int n ∧ t = intStr n) ∧ normV attr p v = .str t ∧
      p.hasEnum = false ∧ p.typeString = true ∧ p.isExpr = false) := by
  fun_cases normV attr p v with
  | case1 s h => exact .inr (.inl ⟨s, rfl, rfl, .inl (by simpa using h)⟩)
  | case2 s _ h => exact .inr (.inl ⟨s, rfl, rfl, .inr (by simpa [and_assoc] using h)⟩)
  | case4 n h => exact .inr (.inr ⟨_, .inr ⟨n, rfl, rfl⟩, rfl, by simpa [and_assoc] using h⟩)
  | case6 x h => exact .inr (.inr ⟨_, .inl rfl, rfl, by simpa [and_assoc] using h⟩)
  | case3 | case5 | case7 | case8 => exact .inl rfl

/-- **C04_value_normal_form** — formatting the value a reload gives back yields the same text as formatting the
original value: the text is a fixed point of format ∘ read at every keyword, for every value -/
theorem C04_value_normal_form (q : Char) (attr : Str) (p : CellProps) (v : J) :
    formatValue q attr p (normV attr p v) = formatValue q attr p v := by
  rcases normV_cases attr p v with h | ⟨s, rfl, h, hr⟩ | ⟨t, hv, h, he, ht, hx⟩ <;> rw [h]
  · rw [formatValue_str, formatValue_str]
    rcases hr with ⟨he, hc⟩ | ⟨he, ht, ho⟩
    · simp only [he, hc, if_true, if_false, upper_idem]
    · cases hopts : p.opts with
      | none => rw [hopts] at ho; cases ho
      | some os =>
        rw [hopts] at ho
        simp only [optsEnum, Bool.and_eq_true] at ho
        have hh := checkOptionsList_hit q s os ho.2
        simp only [he, ht, Bool.false_eq_true, if_false, ho.1.1, ho.1.2, if_true, hh.1, hh.2]
  · rw [formatValue_str]
    rcases hv with rfl | ⟨n, rfl, rfl⟩
    · simp [formatValue_flt, he, ht, hx]
    · simp [formatValue_int, he, ht, hx]

theorem normV_str (attr : Str) (p : CellProps) (s : Str) :
    normV attr p (.str s) = .str s ∨ normV attr p (.str s) = .str (upper s) := by
  rcases normV_cases attr p (.str s) with h | ⟨_, e, h, _⟩ | ⟨_, hv, _⟩
  · exact .inl h
  · cases e; exact .inr h
  · rcases hv with hv | ⟨_, hv, _⟩ <;> cases hv

/-- the normal form is reached after one step -/
theorem C04_normV_idem (attr : Str) (p : CellProps) (v : J) : normV attr p (normV attr p v) = normV attr p v := by
  rcases normV_cases attr p v with h | ⟨s, rfl, h, _⟩ | ⟨t, _, h, he, ht, _⟩ <;> rw [h]
  · exact h
  · rcases normV_str attr p (upper s) with h' | h'
    · exact h'
    · rw [h', upper_idem]
  · simp [normV, he, ht]

/-- **C04_deterministic** — the same dictionary and options always give the same text -/
theorem C04_deterministic (o : Opts) (T : Table) (d d' : J) (h : d = d') : pprint o T d = pprint o T d' := by rw [h]

end Mappy.Printer
