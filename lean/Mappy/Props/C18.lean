/-
  C18 — update / find helpers obey their documented laws.  Property theorems about Model/DictUtils.lean
  (tied to dictutils.py by the `update`/`find*` correspondence).  `update` is characterised as the
  left-to-right composition of single-entry updates (`C18_update_seq`), each obeying its law.
-/
import Mappy.Model.DictUtils
import Mappy.Lemmas.Assoc
import Mappy.Lemmas.DictUtils

namespace Mappy.DictUtils

/-- a patch value that takes the final `else` branch of the loop -/
def IsScalarPatch : J → Prop
  | .dict _ => False
  | .list xs => xs.all isDictOrNone = false
  | .tup xs => xs.all isDictOrNone = false
  | _ => True

/-- `update` processes the patch entries one after the other: patching with `p ++ q` is patching with
`p` and then with `q`. -/
theorem C18_update_seq (ci ow : Bool) (p q : Fields) (d1 : J) :
    updFields ci ow d1 (p ++ q) = (updFields ci ow d1 p).bind (fun d => updFields ci ow d q) := by
  induction p generalizing d1 with
  | nil => rfl
  | cons e p ih =>
    obtain ⟨k, v⟩ := e
    cases d1 with
    | dict f1 =>
      simp only [List.cons_append, updFields_cons]
      cases entry ci ow k v f1 with
      | error e => rfl
      | ok f2 => exact ih _
    | _ => rfl

/-- each loop iteration is `entry`: the whole patch is the left fold of single-entry updates -/
theorem C18_update_step (ci ow : Bool) (f1 : Fields) (k : Str) (v : J) (r : Fields) :
    updFields ci ow (.dict f1) ((k, v) :: r) =
      (entry ci ow k v f1).bind (fun f2 => updFields ci ow (.dict f2) r) := updFields_cons ci ow f1 k v r

/-- root object deletion: a patch carrying a truthy `__delete__` yields the empty dict -/
theorem C18_update_root_delete (ci ow : Bool) (d1 : J) (d2 : Fields) (h : delFlag d2 = true) :
    update ci ow d1 d2 = .ok (.dict []) := by simp [update, h]

theorem lookup_scalar_ne (ow : Bool) (k k' : Str) (v : J) (f1 : Fields) (hne : k' ≠ k) :
    lookup k' (scalar ow k v f1) = lookup k' f1 := by
  unfold scalar
  split
  · exact lookup_delKey_ne k k' f1 hne
  · split
    · rw [lookup_setKey]; simp [hne]
    · rfl

theorem entry_untouched (ci ow : Bool) (k : Str) (v : J) (f1 f2 : Fields)
    (h : entry ci ow k v f1 = .ok f2) (k' : Str) (hne : k' ≠ nk ci k) : lookup k' f2 = lookup k' f1 := by
  have hset : ∀ x, lookup k' (setKey (nk ci k) x f1) = lookup k' f1 := fun x => by
    rw [lookup_setKey]; simp [hne]
  have hmap : ∀ {α} (res : Res α) (g : α → J), res.map (fun a => setKey (nk ci k) (g a) f1) = .ok f2 →
      lookup k' f2 = lookup k' f1 := by
    intro α res g hm
    cases res with
    | error e => simp [Except.map] at hm
    | ok a => simp [Except.map] at hm; rw [← hm]; exact hset _
  cases v with
  | dict pv =>
    simp only [entry] at h
    split at h
    · split at h
      · injection h with h; rw [← h]; exact lookup_delKey_ne _ _ _ hne
      · simp at h
    · exact hmap _ id h
  | list xs | tup xs =>
    simp only [entry] at h
    split at h
    · exact hmap _ J.list h
    · cases h; exact lookup_scalar_ne _ _ _ _ _ hne
  | _ => cases h; exact lookup_scalar_ne _ _ _ _ _ hne

/-- every key of `d1` not mentioned in `d2` is untouched (keys compared as the dict class compares
them: lower-cased for Mapfile dicts, exactly for plain dicts) -/
theorem C18_update_untouched (ci ow : Bool) (p : Fields) (f1 : Fields) (r : J)
    (h : updFields ci ow (.dict f1) p = .ok r) :
    ∃ fr, r = .dict fr ∧ ∀ k', k' ∉ p.map (fun e => nk ci e.1) → lookup k' fr = lookup k' f1 := by
  induction p generalizing f1 with
  | nil => simp [updFields] at h; exact ⟨f1, h.symm, fun _ _ => rfl⟩
  | cons e p ih =>
    obtain ⟨k, v⟩ := e
    rw [updFields_cons] at h
    cases he : entry ci ow k v f1 with
    | error e => simp [he, Except.bind] at h
    | ok f2 =>
      simp only [he, Except.bind] at h
      obtain ⟨fr, e1, e2⟩ := ih f2 h
      refine ⟨fr, e1, fun k' hk' => ?_⟩
      simp only [List.map_cons, List.mem_cons, not_or] at hk'
      rw [e2 k' hk'.2, entry_untouched ci ow k v f1 f2 he k' hk'.1]

theorem entry_scalar (ci ow : Bool) (k : Str) (v : J) (f1 : Fields) (hv : IsScalarPatch v) :
    entry ci ow k v f1 = .ok (scalar ow (nk ci k) v f1) := by
  cases v with
  | dict pv => exact absurd hv (by simp [IsScalarPatch])
  | list xs | tup xs => simp only [IsScalarPatch] at hv; simp [entry, hv]
  | _ => rfl

/-- scalar and non-object-list values of d2 replace those of d1 … -/
theorem C18_update_scalar (ci : Bool) (k : Str) (v : J) (f1 : Fields) (hv : IsScalarPatch v)
    (hd : v ≠ .str delMark) :
    entry ci true k v f1 = .ok (setKey (nk ci k) v f1) := by
  rw [entry_scalar ci true k v f1 hv]; simp [scalar, hd]

/-- … never when overwrite=False and the key exists (a new key is still added) -/
theorem C18_update_no_overwrite (ci : Bool) (k : Str) (v : J) (f1 : Fields) (hv : IsScalarPatch v)
    (hd : v ≠ .str delMark) :
    entry ci false k v f1 = .ok (if hasKey (nk ci k) f1 then f1 else setKey (nk ci k) v f1) := by
  rw [entry_scalar ci false k v f1 hv]
  by_cases hk : hasKey (nk ci k) f1 = true <;> simp [scalar, hd, hk]

/-- a value '__delete__' removes the key -/
theorem C18_update_delete_key (ci ow : Bool) (k : Str) (f1 : Fields) (hk : hasKey (nk ci k) f1 = true) :
    entry ci ow k (.str delMark) f1 = .ok (delKey (nk ci k) f1) := by
  simp [entry, scalar, hk]

/-- a dict carrying `__delete__` removes the object stored under the key -/
theorem C18_update_delete_obj (ci ow : Bool) (k : Str) (pv f1 : Fields)
    (hk : hasKey (nk ci k) f1 = true) (hd : delFlag pv = true) :
    entry ci ow k (.dict pv) f1 = .ok (delKey (nk ci k) f1) := by
  simp [entry, hk, hd]

/-- nested dicts merge recursively -/
theorem C18_update_merge_rec (ci ow : Bool) (k : Str) (pv f1 : Fields) (sub : J)
    (hs : lookup (nk ci k) f1 = some sub) (hd : delFlag pv = false) :
    entry ci ow k (.dict pv) f1 = (updFields ci ow sub pv).map (fun s => setKey (nk ci k) s f1) := by
  simp [entry, hd, hs]

/-- a list of dicts in the patch merges with the list stored under the key (and only object lists do) -/
theorem C18_update_list_zip (ci ow : Bool) (k : Str) (xs os : List J) (f1 : Fields)
    (hs : lookup (nk ci k) f1 = some (.list os)) (ha : xs.all isDictOrNone = true) :
    entry ci ow k (.list xs) f1 = (updList ci ow os xs).map (fun l => setKey (nk ci k) (.list l) f1) := by
  simp only [entry, ha, if_true, listMerge, hs]

/-- lists of dicts merge index by index: a deleted item is dropped … -/
theorem C18_list_delete (ci ow : Bool) (o : J) (os : List J) (pn : Fields) (ns : List J)
    (hd : delFlag pn = true) : updList ci ow (o :: os) (.dict pn :: ns) = updList ci ow os ns := by
  simp [updList, hd]

/-- … an item present in both is merged in place … -/
theorem C18_list_merge (ci ow : Bool) (of : Fields) (os : List J) (pn : Fields) (ns : List J)
    (hd : delFlag pn = false) :
    updList ci ow (.dict of :: os) (.dict pn :: ns) =
      (updFields ci ow (.dict of) pn).bind (fun d => (updList ci ow os ns).map (d :: ·)) := by
  simp only [updList, hd]
  cases updFields ci ow (.dict of) pn with
  | error e => rfl
  | ok d => cases updList ci ow os ns <;> rfl

/-- … `None` skips an index … -/
theorem C18_list_none_skips (ci ow : Bool) (o : J) (os ns : List J) (ho : o ≠ .null) :
    updList ci ow (o :: os) (.null :: ns) = (updList ci ow os ns).map (o :: ·) := by
  simp only [updList]
  cases o with
  | null => exact absurd rfl ho
  | _ => cases updList ci ow os ns <;> rfl

/-- … and extra items are appended (merged into a fresh dict). -/
theorem C18_list_extra (ci ow : Bool) (pn : Fields) (ns : List J) (hd : delFlag pn = false) :
    updList ci ow [] (.dict pn :: ns) =
      (updFields false ow (.dict []) pn).bind (fun d => (updList ci ow [] ns).map (d :: ·)) := by
  simp only [updList, hd]
  cases updFields false ow (.dict []) pn with
  | error e => rfl
  | ok d => cases updList ci ow [] ns <;> rfl

/-- items beyond the patch list are kept -/
theorem C18_list_rest_kept (ci ow : Bool) (os : List J) (h : ∀ o ∈ os, o ≠ .null) :
    updList ci ow os [] = .ok os := by
  have : os.map (fun o => match o with | .null => .dict [] | o => o) = os :=
    (List.map_congr_left fun o ho => by
      cases o with
      | null => exact absurd rfl (h _ ho)
      | _ => rfl).trans (List.map_id _)
  cases os <;> exact congrArg Except.ok this

def held (ci : Bool) (key : Str) : J → Option J
  | .dict f => lookup (nk ci (lower key)) f
  | _ => none

theorem held_dict (ci : Bool) (key : Str) (f : Fields) : held ci key (.dict f) = lookup (nk ci (lower key)) f := rfl

def AllDicts (items : List J) : Prop := ∀ it ∈ items, ∃ f, it = .dict f

/-- find returns the first item whose key equals the value, or None; items lacking the key are skipped -/
theorem C18_find_first (ci : Bool) (key : Str) (value : J) (items : List J) (h : AllDicts items) :
    find ci key value items = .ok ((items.find? (fun it => held ci key it == some value)).getD .null) := by
  fun_induction find ci key value items with
  | case1 => rfl
  | case2 it r e he => obtain ⟨f, rfl⟩ := h it (by simp); cases he  -- not a dict: excluded
  | case3 it r v hv heq =>  -- found here
    obtain ⟨f, rfl⟩ := h it (by simp)
    simp [List.find?, show held ci key (.dict f) = some v from Except.ok.inj hv, eq_of_beq heq]
  | case4 it r v hv hne ih =>  -- another value under the key
    obtain ⟨f, rfl⟩ := h it (by simp)
    simpa [List.find?, show held ci key (.dict f) = some v from Except.ok.inj hv, Bool.eq_false_iff.mpr hne] using ih fun x hx => h x (by simp [hx])
  | case5 it r hv ih =>  -- no such key
    obtain ⟨f, rfl⟩ := h it (by simp)
    simpa [List.find?, show held ci key (.dict f) = none from Except.ok.inj hv] using ih fun x hx => h x (by simp [hx])

/-- findall returns the items, in list order, whose key equals the value asked for (or is one of the
values when a list of values is given) -/
theorem C18_findall_spec (ci : Bool) (key : Str) (value : J) (items : List J) (h : AllDicts items) :
    findall ci key value items =
      .ok (items.filter (fun it => match held ci key it with
                                   | some v => (valuesOf value).contains v
                                   | none => false)) := by
  induction items with
  | nil => rfl
  | cons it r ih =>
    obtain ⟨f, rfl⟩ := h it (by simp)
    have ih' := ih (fun x hx => h x (by simp [hx]))
    simp only [findall, itemGet, ih', List.filter, held_dict]
    cases hl : lookup (nk ci (lower key)) f with
    | none => rfl
    | some v =>
      by_cases hc : (valuesOf value).contains v = true
      · simp only [hc, if_true]
      · have hc' : (valuesOf value).contains v = false := by simpa using hc
        simp only [hc']; rfl

theorem ins_perm (x : J) (l : List J) : (ins x l).Perm (x :: l) := by
  fun_induction ins x l with
  | case1 | case2 => exact .refl _
  | case3 a l _ ih => exact (ih.cons a).trans (.swap x a l)

theorem mem_ins (x y : J) (l : List J) : y ∈ ins x l ↔ y = x ∨ y ∈ l :=
  (ins_perm x l).mem_iff.trans List.mem_cons

theorem mem_insertSorted (x y : J) (l : List J) : y ∈ insertSorted x l ↔ y = x ∨ y ∈ l := by
  unfold insertSorted
  split
  · rename_i h
    have hx : x ∈ l := by simpa using h
    constructor
    · exact Or.inr
    · rintro (rfl | h')
      · exact hx
      · exact h'
  · exact mem_ins x y l

theorem nodup_insertSorted (x : J) (l : List J) (h : l.Nodup) : (insertSorted x l).Nodup := by
  unfold insertSorted
  split
  · exact h
  · rename_i hc
    exact (ins_perm x l).nodup_iff.2 (List.nodup_cons.2 ⟨by simpa using hc, h⟩)

/-- the values `findunique` collects: what the items hold under the key, `None` aside, in item order -/
def heldVals (ci : Bool) (key : Str) (items : List J) : List J :=
  (items.filterMap (held ci key)).filter (· ≠ .null)

theorem mem_heldVals {ci : Bool} {key : Str} {items : List J} {v : J} :
    v ∈ heldVals ci key items ↔ v ≠ .null ∧ ∃ it ∈ items, held ci key it = some v := by
  simp [heldVals, and_comm]

/-- `findunique` inserts the values held, last item first, into a sorted list without repetitions -/
theorem findunique_eq (ci : Bool) (key : Str) (items : List J) (h : AllDicts items) :
    findunique ci key items = .ok ((heldVals ci key items).foldr insertSorted []) := by
  induction items with
  | nil => rfl
  | cons it r ih =>
    obtain ⟨f, rfl⟩ := h it (by simp)
    simp only [findunique, itemGet, ih fun x hx => h x (by simp [hx]), heldVals, List.filterMap_cons, held_dict]
    cases lookup (nk ci (lower key)) f with
    | none => rfl
    | some w => cases w <;> simp

theorem foldr_insertSorted (vs : List J) :
    (vs.foldr insertSorted []).Nodup ∧ ∀ v, v ∈ vs.foldr insertSorted [] ↔ v ∈ vs := by
  induction vs with
  | nil => simp
  | cons x r ih =>
    exact ⟨nodup_insertSorted x _ ih.1, fun v => by rw [List.foldr_cons, mem_insertSorted, ih.2, List.mem_cons]⟩

/-- findunique: the result has no duplicates, never contains None, and contains exactly the values
some item holds under the key -/
theorem C18_findunique_distinct (ci : Bool) (key : Str) (items : List J) (h : AllDicts items) :
    ∃ l, findunique ci key items = .ok l ∧ l.Nodup ∧
      ∀ v, v ∈ l ↔ (v ≠ .null ∧ ∃ it ∈ items, held ci key it = some v) :=
  ⟨_, findunique_eq ci key items h, (foldr_insertSorted _).1, fun v => ((foldr_insertSorted _).2 v).trans mem_heldVals⟩


def IntsSorted : List J → Prop
  | [] => True
  | [_] => True
  | .int a :: .int b :: r => a ≤ b ∧ IntsSorted (.int b :: r)
  | _ => False

def AllInts (l : List J) : Prop := ∀ x ∈ l, ∃ n, x = .int n

theorem ins_sorted (n : Int) (l : List J) (hl : AllInts l) (hs : IntsSorted l) : IntsSorted (ins (.int n) l) := by
  fun_induction ins (.int n) l with
  | case1 => trivial
  | case2 a l hle =>  -- it goes in front
    obtain ⟨m, rfl⟩ := hl a (by simp)
    exact ⟨by simpa [jle] using hle, hs⟩
  | case3 a l hle ih =>  -- it goes further back
    obtain ⟨m, rfl⟩ := hl a (by simp)
    have hl' : AllInts l := fun x hx => hl x (by simp [hx])
    have hmn : m ≤ n := by simp [jle] at hle; omega
    cases l with
    | nil => exact ⟨hmn, trivial⟩
    | cons b l =>
      obtain ⟨k, rfl⟩ := hl' b (by simp)
      have ih' := ih hl' hs.2
      simp only [ins, jle] at ih' ⊢
      by_cases hnk : n ≤ k
      · simp only [hnk, decide_true, if_true] at ih' ⊢
        exact ⟨hmn, ih'⟩
      · simp only [hnk, decide_false] at ih' ⊢
        exact ⟨hs.1, ih'⟩

theorem foldr_insertSorted_ints (vs : List J) (h : AllInts vs) :
    AllInts (vs.foldr insertSorted []) ∧ IntsSorted (vs.foldr insertSorted []) := by
  induction vs with
  | nil => exact ⟨h, trivial⟩
  | cons x r ih =>
    obtain ⟨n, rfl⟩ := h x (by simp)
    have ⟨a1, a2⟩ := ih fun y hy => h y (by simp [hy])
    refine ⟨fun y hy => ((mem_insertSorted _ _ _).1 hy).elim (fun e => ⟨n, e⟩) (a1 y), ?_⟩
    rw [List.foldr_cons, insertSorted]
    split
    · exact a2
    · exact ins_sorted n _ a1 a2

/-- findunique: integers come out in ascending order -/
theorem C18_findunique_sorted_ints (ci : Bool) (key : Str) (items : List J) (l : List J)
    (h : findunique ci key items = .ok l) (hint : ∀ it ∈ items, ∀ v, held ci key it = some v → ∃ n, v = .int n)
    (hd : AllDicts items) : AllInts l ∧ IntsSorted l := by
  cases (findunique_eq ci key items hd).symm.trans h
  exact foldr_insertSorted_ints _ fun v hv => let ⟨_, it, hit, hv⟩ := mem_heldVals.1 hv; hint it hit v hv


/-- findkey follows a key/index path: a path `p ++ q` is `p` followed by `q` -/
theorem C18_findkey_path (ci : Bool) (p q : List PathEl) (d : J) :
    findkey ci d (p ++ q) = (findkey ci d p).bind (fun x => findkey ci x q) :=
  findkey_append ci p q d

/-- purity on real Mapfile dict objects (C12 clause): `find` leaves every item's state unchanged, even
for auto-creating dicts that lack the key -/
theorem C18_find_pure (key : Str) (value : J) (items : List CIDict.St) :
    (findSt key value items).2 = items := by
  have same {s s' : CIDict.St} {v : J} (hc : CIDict.contains (lower key) s = true)
      (hg : CIDict.getitem (lower key) s = .ok (v, s')) : s' = s := by
    simp only [CIDict.contains, CIDict.odContains, hasKey, CIDict.k_, lower_idem] at hc
    simp only [CIDict.getitem, CIDict.defaultGetitem, CIDict.k_, lower_idem, CIDict.odGet] at hg
    cases hl : lookup (lower key) s.items with
    | none => simp [hl] at hc
    | some v => rw [hl] at hg; cases hg; rfl
  fun_induction findSt key value items with
  | case1 | case4 => rfl
  | case2 s r hc v s' hg _ => exact congrArg (· :: r) (same hc hg)  -- found here
  | case3 s r hc v s' hg _ i r' hr ih => rw [hr] at ih; rw [same hc hg]; exact congrArg _ ih  -- another value
  | case5 s r _ i r' hr ih => rw [hr] at ih; exact congrArg _ ih  -- no such key

/-- one Mapfile-dict patch with a deletion, a nested merge, a list merge with a None placeholder and a new key -/
example :
    update true true (.dict [(['a'], .int 1), (['b'], .dict [(['x'], .int 1)]), (['l'], .list [.dict [(['n'], .int 1)], .dict [(['n'], .int 2)]])])
      [(['A'], .str delMark), (['B'], .dict [(['y'], .int 2)]), (['l'], .list [.null, .dict [(delMark, .bool true)], .dict [(['n'], .int 3)]]), (['z'], .int 9)]
    = .ok (.dict [(['b'], .dict [(['x'], .int 1), (['y'], .int 2)]), (['l'], .list [.dict [(['n'], .int 1)], .dict [(['n'], .int 3)]]), (['z'], .int 9)]) := by
  decide

end Mappy.DictUtils
