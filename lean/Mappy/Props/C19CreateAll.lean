/-
  C19 — **C19_create_valid**: over the regenerated schema folder, for every one of the 19 block types and every version point
  (no version; one point below all bounds; every version bound written anywhere in the folder and the point one thousandth
  above it) `create(type, version)` succeeds and both the created object and the object a reload of its printed text gives
  back (`normDoc`, lower-cased as `validate` does) satisfy the versioned schema apart from `required` — except the recorded
  LABEL BACKGROUNDSHADOWSIZE default `false` (known finding).
-/
import Mappy.Props.C19CreateA
import Mappy.Props.C19CreateB
import Mappy.Props.C19CreateC
import Mappy.Props.C19CreateD
namespace Mappy.Create

theorem C19_create_valid : ∀ t ∈ Vocab.blockTypes, ∀ v ∈ versionPoints,
    (createFaults t v).filter (fun f => f != (s%"label", s%"backgroundshadowsize")) = [] := by
  intro t ht v hv
  have hcov := (C19_create_points.2.2.2) t ht
  have hg : t ∈ groupA ++ groupB ++ groupC ++ groupD := by simpa [List.contains_iff_mem] using hcov
  simp only [List.mem_append] at hg
  rcases hg with ((h | h) | h) | h
  · exact faultsAt_nil (C19_create_valid_A t h) hv
  · exact faults_of_classes (C19_create_valid_B t h) hv
  · exact faults_of_classes (C19_create_valid_C t h) hv
  · exact faults_of_classes (C19_create_valid_D t h) hv

end Mappy.Create
