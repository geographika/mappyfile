/-
  C13 — position and comment bookkeeping is transparent.
  Theorems about Model/Transformer.lean (tied to transformer.py by the `transform` correspondence on real Lark
  trees under the four include_position × include_comments combinations).

  The plan: every run with bookkeeping — the main pass under any flags, or the comments pass followed by the main pass —
  is compared with ONE reference, the main pass with both flags off.  `Rel` relates their results; the `composite`
  call-back respects it (`C13_composite_transparent`), so do the key/value blocks (`C13_kv_transparent`) and the
  attribute rules (which ignore the flags).  What a run does around the call-backs is captured by `Pass`; the shapes
  the grammar gives a block item are then gone through once, for any `Pass`.
-/
import Mappy.Lemmas.TransformerSim

namespace Mappy.Transformer

def plainCfg (cfg : Cfg) : Cfg := { cfg with pos := false, com := false }

/-- how a result of the flagged run relates to the plain run's: block dicts lose exactly their bookkeeping keys
(at every depth), attribute dicts are the same up to their `__comments__` entry, everything else is identical -/
def Rel : R → R → Prop
  | .cdict d, r0 => r0 = .cdict (stripF d)
  | .adict kvs, r0 => ∃ kvs0, r0 = .adict kvs0 ∧ delAV comKey kvs0 = delAV comKey kvs
  | r, r0 => r0 = r

def SRel (st st0 : CState) : Prop := st0.d = stripF st.d ∧ st0.pd = none ∧ st0.cd = []

theorem Rel.cdict_iff {d : Fields} {r0 : R} : Rel (.cdict d) r0 ↔ r0 = .cdict (stripF d) := Iff.rfl

theorem Rel.adict_refl (kvs : List (Str × AV)) : Rel (.adict kvs) (.adict kvs) := ⟨kvs, rfl, rfl⟩

theorem Rel.seq_right {r : R} {b : Bool} {xs : List R} (h : Rel r (.seq b xs)) : r = .seq b xs := by
  cases r with
  | cdict d => cases h
  | adict kvs => obtain ⟨_, e, _⟩ := h; cases e
  | _ => exact h.symm

theorem Rel.of_cdict {d d' : Fields} {r0 : R} (hs : stripF d' = stripF d) (h : Rel (.cdict d) r0) : Rel (.cdict d') r0 := by
  rw [Rel.cdict_iff] at h ⊢
  rw [h, hs]

theorem Rel.of_adict {kvs kvs' : List (Str × AV)} {r0 : R} (hs : delAV comKey kvs' = delAV comKey kvs)
    (h : Rel (.adict kvs) r0) : Rel (.adict kvs') r0 := by
  obtain ⟨kvs0, e, hd⟩ := h
  exact ⟨kvs0, e, hd.trans hs.symm⟩

theorem attrParts_delCom (kvs : List (Str × AV)) : attrParts (delAV comKey kvs) = attrParts kvs := by
  unfold attrParts
  rw [lookupAV_delAV _ _ (by decide), lookupAV_delAV _ _ (by decide), delAV_comm s%"__position__" comKey,
    delAV_comm s%"__tokens__" comKey]
  exact congrArg _ (delAV_idem comKey _)

theorem comStep_plain (cfg : Cfg) (Rp : List Str) (key : Str) (c : Option J) (cd : Fields) :
    comStep (plainCfg cfg) Rp key c cd = cd := by
  unfold comStep plainCfg
  split
  · rfl
  · split <;> simp

theorem attrItem_sim (cfg : Cfg) (Rp : List Str) (st st0 st' : CState) (key : Str) (v pos : J) (c c0 : Option J)
    (hk : underscored key = false) (hv : stripJ v = v) (hs : SRel st st0)
    (h : attrItem cfg Rp st key v pos c = .ok st') :
    ∃ st0', attrItem (plainCfg cfg) Rp st0 key v pos c0 = .ok st0' ∧ SRel st' st0' := by
  obtain ⟨hd, hpd, hcd⟩ := hs
  have hds := attrItem_data cfg Rp st st' key v pos c h
  have := dataStep_strip Rp key v st.d st'.d (not_hidden_of_not_underscored key hk) hv hds
  simp only [attrItem, hd, this, hpd, comStep_plain, hcd]
  exact ⟨_, rfl, rfl, rfl, rfl⟩

theorem compositeItem_sim (cfg : Cfg) (S Rp : List Str) (st st0 st' : CState) (r r0 : R)
    (hs : SRel st st0) (hr : Rel r r0) (h : compositeItem cfg S Rp st r = .ok st') :
    ∃ st0', compositeItem (plainCfg cfg) S Rp st0 r0 = .ok st0' ∧ SRel st' st0' := by
  cases r with
  | cdict sub =>
    cases Rel.cdict_iff.1 hr
    simp only [compositeItem] at h ⊢
    split at h
    · rename_i d' hb
      cases h
      rw [hs.1, blockItem_strip S sub st.d d' hb]
      exact ⟨_, rfl, rfl, hs.2⟩
    · cases h
  | adict kvs =>
    obtain ⟨kvs0, rfl, hdel⟩ := hr
    simp only [compositeItem] at h ⊢
    split at h
    · rename_i key v pos hp
      have hg := attrParts_guard kvs key v pos hp
      rw [← attrParts_delCom kvs0, hdel, attrParts_delCom kvs, hp]
      exact attrItem_sim cfg Rp st st0 st' key v pos _ _ hg.1 hg.2 hs h
    · cases h
  | tok _ | seq _ _ | str _ | tree _ _ _ => cases h

inductive RelL : List R → List R → Prop
  | nil : RelL [] []
  | cons {r r0 : R} {rs rs0 : List R} : Rel r r0 → RelL rs rs0 → RelL (r :: rs) (r0 :: rs0)

theorem foldlM_sim (cfg : Cfg) (S Rp : List Str) : (items items0 : List R) → RelL items items0 →
    ∀ (st st0 st' : CState), SRel st st0 → items.foldlM (compositeItem cfg S Rp) st = .ok st' →
    ∃ st0', items0.foldlM (compositeItem (plainCfg cfg) S Rp) st0 = .ok st0' ∧ SRel st' st0'
  | [], _, .nil, st, st0, st', hs, h => by cases h; exact ⟨st0, rfl, hs⟩
  | r :: rs, _, .cons (r0 := r0) (rs0 := rs0) hr hrs, st, st0, st', hs, h => by
    obtain ⟨st1, h1, h2⟩ := foldlM_cons_inv h
    obtain ⟨st01, e1, hs1⟩ := compositeItem_sim cfg S Rp st st0 st1 r r0 hs hr h1
    rw [foldlM_cons_ok rs0 e1]
    exact foldlM_sim cfg S Rp rs rs0 hrs st1 st01 st' hs1 h2

theorem initState_rel (cfg : Cfg) (kn : Str) (key : Tok) : SRel (initState cfg kn key) (initState (plainCfg cfg) kn key) := by
  refine ⟨?_, rfl, rfl⟩
  unfold initState plainCfg
  cases cfg.pos <;> cases cfg.com <;> rfl

theorem finishState_rel (cfg : Cfg) (st st0 : CState) (hs : SRel st st0) :
    finishState (plainCfg cfg) st0 = stripF (finishState cfg st) := by
  obtain ⟨hd, hpd, hcd⟩ := hs
  unfold finishState plainCfg
  simp only [hpd, hd]
  have hp : hiddenKey posKey = true := by decide
  have hc : hiddenKey comKey = true := by decide
  cases st.pd <;> cases cfg.com <;> simp [stripF_setKey_hidden, hp, hc]

/-- **C13_composite_transparent** — the `composite` call-back: for every block-type token, every list of item
results and every setting of the two flags, if the flagged call returns then the plain call on the corresponding
items returns the same dict minus its `__position__` / `__comments__` entries (at every depth). -/
theorem C13_composite_transparent (cfg : Cfg) (S Rp : List Str) (key : Tok) (items items0 : List R) (r : R)
    (hrel : RelL items items0) (h : compositeBody cfg S Rp key items = .ok r) :
    ∃ r0, compositeBody (plainCfg cfg) S Rp key items0 = .ok r0 ∧ Rel r r0 := by
  obtain ⟨kn, st, hkn, hf, rfl⟩ := compositeBody_ok h
  obtain ⟨st0, e0, hs0⟩ := foldlM_sim cfg S Rp items items0 hrel _ _ st (initState_rel cfg kn key) hf
  exact ⟨_, compositeBody_of_fold hkn e0, Rel.cdict_iff.2 (congrArg R.cdict (finishState_rel cfg st st0 hs0))⟩

/-- **C13_kv_transparent** — METADATA / VALIDATION / VALUES / CONNECTIONOPTIONS: include_position only adds `__position__` -/
theorem C13_kv_transparent (cfg : Cfg) (ty : Str) (tokens : List R) (r : R) (h : valuePairs cfg ty tokens = .ok r) :
    ∃ r0, valuePairs (plainCfg cfg) ty tokens = .ok r0 ∧ Rel r r0 := by
  have ht : hiddenKey s%"__type__" = false := by decide
  have hpk : hiddenKey posKey = true := by decide
  unfold valuePairs at h ⊢
  split at h
  · cases h
  rename_i key body hc
  split at h
  · cases h
  rename_i kn hk
  split at h
  · cases h
  rename_i kvs hp
  have hs := kvDict_strip body kvs hp
  simp only [plainCfg, Bool.false_eq_true, if_false]
  refine ⟨_, rfl, ?_⟩
  split at h
  · split at h
    · cases h
    · cases h
      rw [Rel.cdict_iff, stripF_setKey _ _ ht, stripF_setKey_hidden _ _ hpk, hs]
      rfl
  · cases h
    rw [Rel.cdict_iff, stripF_setKey _ _ ht, hs]
    rfl

theorem callback_plain (cfg : Cfg) (data : Str) (cm : Option (List Str)) (t : List R)
    (h : flagNames.contains data = false) : callback (plainCfg cfg) data cm t = callback cfg data cm t := by
  simp only [flagNames, List.contains_cons, List.contains_nil, Bool.or_false, Bool.or_eq_false_iff, beq_eq_false_iff_ne, ne_eq] at h
  obtain ⟨h1, h2, h3, h4, h5⟩ := h
  have hkv : ¬(data = s%"metadata" ∨ data = s%"values" ∨ data = s%"validation" ∨ data = s%"connectionoptions") := by
    rintro (e | e | e | e) <;> contradiction
  unfold callback
  -- down the dispatch, one arm a line: `rfl` where the arm does not mention `cfg`
  refine
    ite_rel (R := Eq) (fun _ => rfl) fun _ =>            -- start
    ite_rel (R := Eq) (fun _ => rfl) fun _ =>            -- composite_body, composite_type, value
    ite_rel (R := Eq) (fun e => absurd e h1) fun _ =>    -- composite: takes `cfg`, excluded by `h`
    ite_rel (R := Eq) (fun _ => rfl) fun _ =>            -- attr
    ite_rel (R := Eq) (fun _ => rfl) fun _ =>            -- config
    ite_rel (R := Eq) (fun _ => rfl) fun _ =>            -- projection
    ite_rel (R := Eq) (fun _ => rfl) fun _ =>            -- points
    ite_rel (R := Eq) (fun _ => rfl) fun _ =>            -- pattern
    ite_rel (R := Eq) (fun e => absurd e hkv) fun _ =>   -- the key/value blocks: take `cfg`, excluded by `h`
    rfl                                                  -- every further arm: at most `cfg.floatOf`, which `plainCfg` keeps

mutual
theorem mainT_flagFree (cfg : Cfg) : (t : R) → flagFree t = true → mainT (plainCfg cfg) t = mainT cfg t
  | .tree data cm xs, h => by
    simp only [flagFree, Bool.and_eq_true, Bool.not_eq_true'] at h
    rw [mainT_tree, mainT_tree, mainTL_flagFree cfg xs h.2]
    cases mainTL cfg xs with
    | error e => rfl
    | ok xs' => exact callback_plain cfg data cm xs' h.1
  | .tok _, _ | .str _, _ | .seq _ _, _ | .adict _, _ | .cdict _, _ => rfl
theorem mainTL_flagFree (cfg : Cfg) : (ts : List R) → flagFreeL ts = true → mainTL (plainCfg cfg) ts = mainTL cfg ts
  | [], _ => rfl
  | x :: r, h => by
    simp only [flagFreeL, Bool.and_eq_true] at h
    rw [mainTL_cons, mainTL_cons, mainT_flagFree cfg x h.1, mainTL_flagFree cfg r h.2]
end

theorem kv_flag (data : Str) (hd : kvNames.contains data = true) : flagNames.contains data = true := by
  simp only [kvNames, List.contains_cons, List.contains_nil, Bool.or_false, Bool.or_eq_true, beq_iff_eq] at hd
  rcases hd with rfl | rfl | rfl | rfl <;> decide

theorem attrLike (cfg : Cfg) (data : Str) (cm : Option (List Str)) (ts : List R) (hd : attrNames.contains data = true) :
    flagNames.contains data = false ∧ ∀ r, callback cfg data cm ts = .ok r → ∃ kvs, r = .adict kvs := by
  simp only [attrNames, List.contains_cons, List.contains_nil, Bool.or_false, Bool.or_eq_true, beq_iff_eq] at hd
  rcases hd with rfl | rfl | rfl | rfl | rfl
  · exact ⟨by decide, Adictly.attr ts⟩
  · exact ⟨by decide, config_adictly ts⟩
  · exact ⟨by decide, pairLists_adictly _ ts⟩
  · exact ⟨by decide, pairLists_adictly _ ts⟩
  · exact ⟨by decide, projection_adictly ts⟩

theorem callback_leaf (cfg : Cfg) (data : Str) (cm : Option (List Str)) (ts : List R) (r : R)
    (hd : (attrNames.contains data || kvNames.contains data) = true) (h : callback cfg data cm ts = .ok r) :
    ∃ r0, callback (plainCfg cfg) data cm ts = .ok r0 ∧ Rel r r0 := by
  rcases Bool.or_eq_true _ _ ▸ hd with ha | hk
  · obtain ⟨hf, had⟩ := attrLike cfg data cm ts ha
    obtain ⟨kvs, rfl⟩ := had r h
    exact ⟨_, (callback_plain cfg data cm ts hf).trans h, .adict_refl kvs⟩
  · rw [callback_kv _ data cm ts hk] at h ⊢
    exact C13_kv_transparent cfg data ts r h

/-- A run with bookkeeping, seen from a tree node: it runs on the children (`FL`), calls the node's call-back, and then
touches at most what `Rel` ignores.  The main pass is one (it touches nothing: `mainPass`); so is the comments pass
followed by the main pass (`item2Pass`). -/
structure Pass (cfg : Cfg) (F : R → Res R) (FL : List R → Res (List R)) : Prop where
  node : ∀ {data cm xs r}, F (.tree data cm xs) = .ok r →
    ∃ xs' r1, FL xs = .ok xs' ∧ callback cfg data cm xs' = .ok r1 ∧ ∀ r0, Rel r1 r0 → Rel r r0
  nil : ∀ {rs}, FL [] = .ok rs → rs = []
  cons : ∀ {x r rs}, FL (x :: r) = .ok rs → ∃ a b, rs = a :: b ∧ F x = .ok a ∧ FL r = .ok b

namespace Pass
variable {cfg : Cfg} {F : R → Res R} {FL : List R → Res (List R)} (P : Pass cfg F FL)
  {data : Str} {cm cm2 : Option (List Str)} {xs items : List R} {ty r : R}
include P

theorem leaf (hd : (attrNames.contains data || kvNames.contains data) = true)
    (hv : FL xs = mainTL (plainCfg cfg) xs) (h : F (.tree data cm xs) = .ok r) :
    ∃ r0, mainT (plainCfg cfg) (.tree data cm xs) = .ok r0 ∧ Rel r r0 := by
  obtain ⟨xs', r1, hxs, hcb, post⟩ := P.node h
  obtain ⟨r0, e0, hr⟩ := callback_leaf cfg data cm xs' r1 hd hcb
  exact ⟨r0, (mainT_tree_ok data cm (hv ▸ hxs)).trans e0, post r0 hr⟩

/-- a key/value block wrapped in a `composite` node, which hands its one child on -/
theorem kvblock (hd : kvNames.contains data = true) (hv : FL xs = mainTL (plainCfg cfg) xs)
    (h : F (.tree s%"composite" cm [.tree data cm2 xs]) = .ok r) :
    ∃ r0, mainT (plainCfg cfg) (.tree s%"composite" cm [.tree data cm2 xs]) = .ok r0 ∧ Rel r r0 := by
  obtain ⟨_, r1, hxs, hcb, post⟩ := P.node h
  obtain ⟨a, _, rfl, ha, hb⟩ := P.cons hxs
  cases P.nil hb
  rw [callback_composite, composite_one] at hcb
  cases hcb
  obtain ⟨a0, e0, hr⟩ := P.leaf (by rw [hd, Bool.or_true]) hv ha
  exact ⟨a0, (mainT_tree_ok _ cm (mainTL_cons_ok e0 rfl)).trans rfl, post a0 hr⟩

theorem block (hty : F ty = mainT (plainCfg cfg) ty)
    (ih : ∀ rs, FL items = .ok rs → ∃ rs0, mainTL (plainCfg cfg) items = .ok rs0 ∧ RelL rs rs0)
    (h : F (.tree s%"composite" cm [ty, .tree s%"composite_body" cm2 items]) = .ok r) :
    ∃ r0, mainT (plainCfg cfg) (.tree s%"composite" cm [ty, .tree s%"composite_body" cm2 items]) = .ok r0 ∧ Rel r r0 := by
  obtain ⟨_, r1, hxs, hcb, post⟩ := P.node h
  obtain ⟨tyR, _, rfl, hty', hb⟩ := P.cons hxs
  obtain ⟨bodyR, _, rfl, hbody, hc⟩ := P.cons hb
  cases P.nil hc
  obtain ⟨rs, _, hrs, hcbb, postb⟩ := P.node hbody
  cases hcbb
  cases Rel.seq_right (postb _ rfl)
  obtain ⟨rs0, e0, hrel⟩ := ih rs hrs
  rw [callback_composite, composite_pair] at hcb
  split at hcb
  · rename_i key hk
    obtain ⟨r0, ep, hr0⟩ := C13_composite_transparent cfg _ _ key rs rs0 r1 hrel hcb
    refine ⟨r0, ?_, post r0 hr0⟩
    rw [mainT_tree_ok _ cm (mainTL_cons_ok (hty ▸ hty') (mainTL_cons_ok (mainT_tree_ok _ cm2 e0) rfl)),
      callback_composite, composite_pair, hk]
    exact ep
  · cases hcb

theorem nilL {rs : List R} (h : FL [] = .ok rs) : ∃ rs0, mainTL (plainCfg cfg) [] = .ok rs0 ∧ RelL rs rs0 := by
  cases P.nil h; exact ⟨[], rfl, .nil⟩

theorem consL {x : R} {rest rs : List R} (ih1 : ∀ a, F x = .ok a → ∃ a0, mainT (plainCfg cfg) x = .ok a0 ∧ Rel a a0)
    (ih2 : ∀ b, FL rest = .ok b → ∃ b0, mainTL (plainCfg cfg) rest = .ok b0 ∧ RelL b b0) (h : FL (x :: rest) = .ok rs) :
    ∃ rs0, mainTL (plainCfg cfg) (x :: rest) = .ok rs0 ∧ RelL rs rs0 := by
  obtain ⟨a, b, rfl, ha, hb⟩ := P.cons h
  obtain ⟨a0, e1, h1⟩ := ih1 a ha
  obtain ⟨b0, e2, h2⟩ := ih2 b hb
  exact ⟨a0 :: b0, mainTL_cons_ok e1 e2, .cons h1 h2⟩

/-- the root: one block is handed on, several (or none) become a list -/
theorem start {blocks : List R}
    (ih : ∀ rs, FL blocks = .ok rs → ∃ rs0, mainTL (plainCfg cfg) blocks = .ok rs0 ∧ RelL rs rs0)
    (h : F (.tree s%"start" cm blocks) = .ok r) :
    ∃ r0, mainT (plainCfg cfg) (.tree s%"start" cm blocks) = .ok r0 ∧
      (Rel r r0 ∨ ∃ rs rs0, r = .seq false rs ∧ r0 = .seq false rs0 ∧ RelL rs rs0) := by
  obtain ⟨rs, r1, hrs, hcb, post⟩ := P.node h
  obtain ⟨rs0, e0, hrel⟩ := ih rs hrs
  rw [mainT_tree_ok _ cm e0]
  rw [callback_start] at hcb ⊢
  cases hrel with
  | nil => cases hcb; exact ⟨_, rfl, .inr ⟨[], [], Rel.seq_right (post _ rfl), rfl, .nil⟩⟩
  | cons hx hrest =>
    cases hrest with
    | nil => cases hcb; exact ⟨_, rfl, .inl (post _ hx)⟩
    | cons hy hrest' => cases hcb; exact ⟨_, rfl, .inr ⟨_, _, Rel.seq_right (post _ rfl), rfl, .cons hx (.cons hy hrest')⟩⟩

end Pass

theorem mainPass (cfg : Cfg) : Pass cfg (mainT cfg) (mainTL cfg) where
  node h := let ⟨xs', hxs, hcb⟩ := mainT_tree_inv h; ⟨xs', _, hxs, hcb, fun _ hr => hr⟩
  nil h := by cases h; rfl
  cons h := mainTL_cons_inv h

mutual
/-- the shapes the grammar gives the items of a block (`_composite_item`): simple items (attr, config, points,
pattern, projection), VALUES, wrapped key/value blocks, nested blocks -/
inductive ShapeItem : R → Prop
  | simple (data : Str) (cm : Option (List Str)) (xs : List R) :
      attrNames.contains data = true → flagFreeL xs = true → ShapeItem (.tree data cm xs)
  | kv (data : Str) (cm : Option (List Str)) (xs : List R) :
      kvNames.contains data = true → flagFreeL xs = true → ShapeItem (.tree data cm xs)
  | kvblock (data : Str) (cm cm2 : Option (List Str)) (xs : List R) :
      kvNames.contains data = true → flagFreeL xs = true → ShapeItem (.tree s%"composite" cm [.tree data cm2 xs])
  | block (cm cm2 : Option (List Str)) (ty : R) (items : List R) :
      flagFree ty = true → ShapeItems items → ShapeItem (.tree s%"composite" cm [ty, .tree s%"composite_body" cm2 items])
inductive ShapeItems : List R → Prop
  | nil : ShapeItems []
  | cons (x : R) (r : List R) : ShapeItem x → ShapeItems r → ShapeItems (x :: r)
end

mutual
/-- **C13_item_transparent** — every item of a block, at every nesting depth -/
theorem C13_item_transparent (cfg : Cfg) : (t : R) → ShapeItem t → ∀ r, mainT cfg t = .ok r →
    ∃ r0, mainT (plainCfg cfg) t = .ok r0 ∧ Rel r r0
  | _, .simple _ _ xs hd hx, _, h => (mainPass cfg).leaf (by rw [hd]; rfl) (mainTL_flagFree cfg xs hx).symm h
  | _, .kv _ _ xs hd hx, _, h => (mainPass cfg).leaf (by rw [hd, Bool.or_true]) (mainTL_flagFree cfg xs hx).symm h
  | _, .kvblock _ _ _ xs hd hx, _, h => (mainPass cfg).kvblock hd (mainTL_flagFree cfg xs hx).symm h
  | _, .block _ _ ty items hty hitems, _, h =>
    (mainPass cfg).block (mainT_flagFree cfg ty hty).symm (C13_items_transparent cfg items hitems) h
theorem C13_items_transparent (cfg : Cfg) : (ts : List R) → ShapeItems ts → ∀ rs, mainTL cfg ts = .ok rs →
    ∃ rs0, mainTL (plainCfg cfg) ts = .ok rs0 ∧ RelL rs rs0
  | _, .nil, _, h => (mainPass cfg).nilL h
  | _, .cons x r hx hr, _, h =>
    (mainPass cfg).consL (C13_item_transparent cfg x hx) (C13_items_transparent cfg r hr) h
end

/-- **C13_position_transparent** — the whole single-pass pipeline (include_comments off): for every tree whose
root is `start` over grammar-shaped blocks (any number, any nesting depth) and every include_position, a successful
load yields exactly the plain load's dictionaries plus `__position__` entries. -/
theorem C13_position_transparent (cfg : Cfg) (cm : Option (List Str)) (blocks : List R) (hs : ShapeItems blocks)
    (r : R) (h : mainT cfg (.tree s%"start" cm blocks) = .ok r) :
    ∃ r0, mainT (plainCfg cfg) (.tree s%"start" cm blocks) = .ok r0 ∧
      (Rel r r0 ∨ ∃ rs rs0, r = .seq false rs ∧ r0 = .seq false rs0 ∧ RelL rs rs0) :=
  (mainPass cfg).start (C13_items_transparent cfg blocks hs) h

/-- the decidable shape test the harness evaluates on every real tree implies the inductive premise -/
theorem shapeItem_of_B_both : (∀ t, shapeItemB t = true → ShapeItem t) ∧ (∀ ts, shapeItemsB ts = true → ShapeItems ts) := by
  apply shapeItemB.mutual_induct
  · intro cm d2 cm2 ys h
    unfold shapeItemB at h
    rw [if_pos rfl] at h
    simp only [Bool.and_eq_true] at h
    exact .kvblock d2 cm cm2 ys h.1 h.2
  · intro cm ty b cm2 items ih h
    unfold shapeItemB at h
    rw [if_pos rfl] at h
    simp only [Bool.and_eq_true, beq_iff_eq] at h
    obtain ⟨⟨rfl, hty⟩, hit⟩ := h
    exact .block cm cm2 ty items hty (ih hit)
  · intro cm xs h1 h2 h
    unfold shapeItemB at h
    rw [if_pos rfl] at h
    split at h
    · exact (h1 _ _ _ rfl).elim
    · exact (h2 _ _ _ _ rfl).elim
    · cases h
  · intro data cm xs hc h
    unfold shapeItemB at h
    rw [if_neg hc] at h
    simp only [Bool.and_eq_true, Bool.or_eq_true] at h
    rcases h.1 with ha | hk
    · exact .simple data cm xs ha h.2
    · exact .kv data cm xs hk h.2
  · intro x hx h
    cases x with
    | tree data cm xs => exact (hx _ _ _ rfl).elim
    | _ => cases h
  · intro _; exact .nil
  · intro t r ih1 ih2 h
    simp only [shapeItemsB, Bool.and_eq_true] at h
    exact .cons t r (ih1 h.1) (ih2 h.2)

theorem shapeItem_of_B : (t : R) → shapeItemB t = true → ShapeItem t := shapeItem_of_B_both.1
theorem shapeItems_of_B : (ts : List R) → shapeItemsB ts = true → ShapeItems ts := shapeItem_of_B_both.2

mutual
theorem plainT_flagFree : (t : R) → plainT t = true → flagFree t = true
  | .tree data cm xs, h => by
    simp only [plainT, Bool.and_eq_true, Bool.not_eq_true'] at h
    show (!flagNames.contains data && flagFreeL xs) = true
    rw [h.1.2, plainTL_flagFreeL xs h.2]; rfl
  | .tok _, _ | .str _, _ => rfl
  | .seq _ xs, h => by simp only [plainT] at h; simp [flagFree, plainTL_flagFreeL xs h]
  | .adict _, h | .cdict _, h => by simp [plainT] at h
theorem plainTL_flagFreeL : (ts : List R) → plainTL ts = true → flagFreeL ts = true
  | [], _ => rfl
  | x :: r, h => by
    simp only [plainTL, Bool.and_eq_true] at h
    simp [flagFreeL, plainT_flagFree x h.1, plainTL_flagFreeL r h.2]
end

theorem comNode_other (cfg : Cfg) (data : Str) (cm : Option (List Str)) (xs : List R)
    (h : comNames.contains data = false) : comNode cfg data cm xs = .ok (.tree data cm xs) := by
  simp only [comNames, List.contains_cons, List.contains_nil, Bool.or_false, Bool.or_eq_false_iff, beq_eq_false_iff_ne, ne_eq] at h
  obtain ⟨h1, h2, h3⟩ := h
  simp [comNode, h1, h2, h3]

theorem comT_tree (cfg : Cfg) (data : Str) (cm : Option (List Str)) (xs : List R) :
    comT cfg (.tree data cm xs) =
      match comTL cfg xs with
      | .ok xs' => comNode cfg data cm xs'
      | .error e => .error e := by
  simp only [comT]
  cases comTL cfg xs <;> rfl

theorem comTL_cons (cfg : Cfg) (x : R) (r : List R) :
    comTL cfg (x :: r) =
      match comT cfg x with
      | .error e => .error e
      | .ok x' => (match comTL cfg r with | .ok r' => .ok (x' :: r') | .error e => .error e) := by
  simp only [comTL]
  cases comT cfg x with
  | error e => rfl
  | ok x' => cases comTL cfg r <;> rfl

mutual
theorem comT_plain (cfg : Cfg) : (t : R) → plainT t = true → comT cfg t = .ok t
  | .tree data cm xs, h => by
    simp only [plainT, Bool.and_eq_true, Bool.not_eq_true'] at h
    rw [comT_tree, comTL_plain cfg xs h.2]
    exact comNode_other cfg data cm xs h.1.1
  | .tok _, _ | .str _, _ | .seq _ _, _ | .adict _, _ | .cdict _, _ => rfl
theorem comTL_plain (cfg : Cfg) : (ts : List R) → plainTL ts = true → comTL cfg ts = .ok ts
  | [], _ => rfl
  | x :: r, h => by
    simp only [plainTL, Bool.and_eq_true] at h
    rw [comTL_cons, comT_plain cfg x h.1, comTL_plain cfg r h.2]
end

/-- what the enclosing `composite` call-back finally sees of an item: comments pass, then main pass -/
def item2 (cfg : Cfg) (t : R) : Res R :=
  match comT cfg t with
  | .ok t' => mainT cfg t'
  | .error e => .error e

def items2 (cfg : Cfg) (ts : List R) : Res (List R) :=
  match comTL cfg ts with
  | .ok ts' => mainTL cfg ts'
  | .error e => .error e

theorem mainT_done (cfg : Cfg) (r : R) (h : ∀ d cm xs, r ≠ .tree d cm xs) : mainT cfg r = .ok r := by
  cases r with
  | tree d cm xs => exact absurd rfl (h d cm xs)
  | _ => rfl

theorem addMetadataComments_strip (d d3 : Fields) (md : List R) (h : addMetadataComments d md = .ok d3) :
    stripF d3 = stripF d := by
  unfold addMetadataComments at h
  split at h
  · obtain ⟨cd, _, h⟩ := bind_ok h
    cases h
    exact stripF_setKey_hidden comKey _ (by decide) d
  · cases h; rfl

theorem compCom_strip (cm : Option (List Str)) (xs' : List R) (d : Fields) (r : R) (h : compCom cm xs' (.cdict d) = .ok r) :
    ∃ d3, r = .cdict d3 ∧ stripF d3 = stripF d := by
  have hc : hiddenKey comKey = true := by decide
  unfold compCom at h
  dsimp (config := { zeta := false }) only at h
  -- `d1`, `d2`: the dict after each of the two updates of its `__comments__` entry
  extract_lets d1 d2 at h
  have e1 : stripF d1 = stripF d := by
    show stripF (if _ then _ else _) = _
    split
    · rfl
    · exact stripF_setKey_hidden comKey _ hc d
  have e2 : stripF d2 = stripF d := by
    show stripF (if _ then _ else _) = _
    split
    · exact e1
    · split
      · exact (stripF_setKey_hidden comKey _ hc d1).trans e1
      · exact e1
  clear_value d1 d2
  split at h
  · split at h
    · split at h
      · rename_i d3 ha
        cases h
        exact ⟨d3, rfl, (addMetadataComments_strip d2 d3 _ ha).trans e2⟩
      · cases h
    · cases h
  · cases h
    exact ⟨d2, rfl, e2⟩

theorem comNode_inv {cfg : Cfg} {data : Str} {cm : Option (List Str)} {xs : List R} {t : R}
    (h : comNode cfg data cm xs = .ok t) :
    t = .tree data cm xs ∨ ∃ r1, mainT cfg (.tree data cm xs) = .ok r1 ∧
      (attrCom cm r1 = .ok t ∨ projCom cm r1 = .ok t ∨ compCom cm xs r1 = .ok t) := by
  unfold comNode at h
  split at h
  · split at h
    · exact .inr ⟨_, ‹_›, .inl h⟩
    · cases h
  · split at h
    · split at h
      · exact .inr ⟨_, ‹_›, .inr (.inl h)⟩
      · cases h
    · split at h
      · split at h
        · exact .inr ⟨_, ‹_›, .inr (.inr h)⟩
        · cases h
      · cases h; exact .inl rfl

theorem comPost {cfg : Cfg} {cm : Option (List Str)} {xs : List R} {r1 t : R}
    (h : attrCom cm r1 = .ok t ∨ projCom cm r1 = .ok t ∨ compCom cm xs r1 = .ok t) :
    mainT cfg t = .ok t ∧ ∀ r0, Rel r1 r0 → Rel t r0 := by
  rcases h with h | h | h
  · cases r1 with
    | adict kvs => cases h; exact ⟨rfl, fun _ => Rel.of_adict (delAV_setAV_self comKey _ kvs)⟩
    | _ => cases h
  · cases r1 with
    | adict kvs =>
      simp only [projCom] at h
      split at h <;> cases h
      · exact ⟨rfl, fun _ hr => hr⟩
      · exact ⟨rfl, fun _ => Rel.of_adict (delAV_setAV_self comKey _ kvs)⟩
    | _ => cases h
  · cases r1 with
    | cdict d =>
      obtain ⟨d3, rfl, hs⟩ := compCom_strip cm xs d t h
      exact ⟨rfl, fun _ => Rel.of_cdict hs⟩
    | _ => cases h

theorem item2_inv {cfg : Cfg} {t r : R} (h : item2 cfg t = .ok r) : ∃ t', comT cfg t = .ok t' ∧ mainT cfg t' = .ok r := by
  unfold item2 at h
  split at h
  · exact ⟨_, ‹_›, h⟩
  · cases h

theorem items2_inv {cfg : Cfg} {ts rs : List R} (h : items2 cfg ts = .ok rs) :
    ∃ ts', comTL cfg ts = .ok ts' ∧ mainTL cfg ts' = .ok rs := by
  unfold items2 at h
  split at h
  · exact ⟨_, ‹_›, h⟩
  · cases h

theorem comTL_cons_inv {cfg : Cfg} {x : R} {r ts : List R} (h : comTL cfg (x :: r) = .ok ts) :
    ∃ x' r', ts = x' :: r' ∧ comT cfg x = .ok x' ∧ comTL cfg r = .ok r' := by
  rw [comTL_cons] at h
  split at h
  · cases h
  · split at h
    · cases h; exact ⟨_, _, rfl, ‹_›, ‹_›⟩
    · cases h

theorem item2Pass (cfg : Cfg) : Pass cfg (item2 cfg) (items2 cfg) where
  node {data cm xs r} h := by
    obtain ⟨t, ht, hm⟩ := item2_inv h
    rw [comT_tree] at ht
    split at ht
    · rename_i xs2 hxs2
      have run : ∀ {xs' : List R}, mainTL cfg xs2 = .ok xs' → items2 cfg xs = .ok xs' := fun e => by rw [items2, hxs2]; exact e
      rcases comNode_inv ht with rfl | ⟨r1, hm1, hpost⟩
      · obtain ⟨xs', hxs', hcb⟩ := mainT_tree_inv hm
        exact ⟨xs', r, run hxs', hcb, fun _ hr => hr⟩
      · obtain ⟨xs', hxs', hcb⟩ := mainT_tree_inv hm1
        obtain ⟨hdone, post⟩ := comPost (cfg := cfg) hpost
        cases hdone.symm.trans hm
        exact ⟨xs', r1, run hxs', hcb, post⟩
    · cases ht
  nil h := by cases h; rfl
  cons {x r rs} h := by
    obtain ⟨ts', ht, hm⟩ := items2_inv h
    obtain ⟨x', r', rfl, hx', hr'⟩ := comTL_cons_inv ht
    obtain ⟨a, b, rfl, ha, hb⟩ := mainTL_cons_inv hm
    exact ⟨a, b, rfl, by rw [item2, hx']; exact ha, by rw [items2, hr']; exact hb⟩

theorem item2_plain (cfg : Cfg) (t : R) (h : plainT t = true) : item2 cfg t = mainT (plainCfg cfg) t := by
  rw [item2, comT_plain cfg t h]; exact (mainT_flagFree cfg t (plainT_flagFree t h)).symm

theorem items2_plain (cfg : Cfg) (ts : List R) (h : plainTL ts = true) : items2 cfg ts = mainTL (plainCfg cfg) ts := by
  rw [items2, comTL_plain cfg ts h]; exact (mainTL_flagFree cfg ts (plainTL_flagFreeL ts h)).symm

mutual
inductive ShapeC : R → Prop
  | simple (data : Str) (cm : Option (List Str)) (xs : List R) :
      attrNames.contains data = true → plainTL xs = true → ShapeC (.tree data cm xs)
  | kv (data : Str) (cm : Option (List Str)) (xs : List R) :
      kvNames.contains data = true → plainTL xs = true → ShapeC (.tree data cm xs)
  | kvblock (data : Str) (cm cm2 : Option (List Str)) (xs : List R) :
      kvNames.contains data = true → plainTL xs = true → ShapeC (.tree s%"composite" cm [.tree data cm2 xs])
  | block (cm cm2 : Option (List Str)) (ty : R) (items : List R) :
      plainT ty = true → ShapeCs items → ShapeC (.tree s%"composite" cm [ty, .tree s%"composite_body" cm2 items])
inductive ShapeCs : List R → Prop
  | nil : ShapeCs []
  | cons (x : R) (r : List R) : ShapeC x → ShapeCs r → ShapeCs (x :: r)
end

mutual
/-- **C13_item_transparent_com** — every item of a block through BOTH passes (comments, then main), at every depth -/
theorem C13_item_transparent_com (cfg : Cfg) : (t : R) → ShapeC t → ∀ r, item2 cfg t = .ok r →
    ∃ r0, mainT (plainCfg cfg) t = .ok r0 ∧ Rel r r0
  | _, .simple _ _ xs hd hx, _, h => (item2Pass cfg).leaf (by rw [hd]; rfl) (items2_plain cfg xs hx) h
  | _, .kv _ _ xs hd hx, _, h => (item2Pass cfg).leaf (by rw [hd, Bool.or_true]) (items2_plain cfg xs hx) h
  | _, .kvblock _ _ _ xs hd hx, _, h => (item2Pass cfg).kvblock hd (items2_plain cfg xs hx) h
  | _, .block _ _ ty items hty hitems, _, h =>
    (item2Pass cfg).block (item2_plain cfg ty hty) (C13_items_transparent_com cfg items hitems) h
theorem C13_items_transparent_com (cfg : Cfg) : (ts : List R) → ShapeCs ts → ∀ rs, items2 cfg ts = .ok rs →
    ∃ rs0, mainTL (plainCfg cfg) ts = .ok rs0 ∧ RelL rs rs0
  | _, .nil, _, h => (item2Pass cfg).nilL h
  | _, .cons x r hx hr, _, h =>
    (item2Pass cfg).consL (C13_item_transparent_com cfg x hx) (C13_items_transparent_com cfg r hr) h
end

theorem transform_com (cfg : Cfg) (hc : cfg.com = true) (t : R) (hk : canonizable t = true) :
    transform cfg t = item2 cfg (canonize t) := by
  simp only [transform, hk, hc, if_true, bind, Except.bind, item2]
  cases comT cfg (canonize t) <;> rfl

/-- **C13_comments_transparent** — the whole two-pass pipeline: for every tree whose root is `start` over
grammar-shaped blocks (any number, any nesting depth, comments attached anywhere) and EVERY setting of the two flags,
a successful load with bookkeeping yields exactly the plain load's dictionaries plus `__position__` / `__comments__`
entries -/
theorem C13_comments_transparent (cfg : Cfg) (cm : Option (List Str)) (blocks : List R) (hs : ShapeCs blocks)
    (r : R) (h : item2 cfg (.tree s%"start" cm blocks) = .ok r) :
    ∃ r0, mainT (plainCfg cfg) (.tree s%"start" cm blocks) = .ok r0 ∧
      (Rel r r0 ∨ ∃ rs rs0, r = .seq false rs ∧ r0 = .seq false rs0 ∧ RelL rs rs0) :=
  (item2Pass cfg).start (C13_items_transparent_com cfg blocks hs) h

theorem shapeC_of_B_both : (∀ t, shapeCItemB t = true → ShapeC t) ∧ (∀ ts, shapeCItemsB ts = true → ShapeCs ts) := by
  apply shapeCItemB.mutual_induct
  · intro cm d2 cm2 ys h
    unfold shapeCItemB at h
    rw [if_pos rfl] at h
    simp only [Bool.and_eq_true] at h
    exact .kvblock d2 cm cm2 ys h.1 h.2
  · intro cm ty b cm2 items ih h
    unfold shapeCItemB at h
    rw [if_pos rfl] at h
    simp only [Bool.and_eq_true, beq_iff_eq] at h
    obtain ⟨⟨rfl, hty⟩, hit⟩ := h
    exact .block cm cm2 ty items hty (ih hit)
  · intro cm xs h1 h2 h
    unfold shapeCItemB at h
    rw [if_pos rfl] at h
    split at h
    · exact (h1 _ _ _ rfl).elim
    · exact (h2 _ _ _ _ rfl).elim
    · cases h
  · intro data cm xs hc h
    unfold shapeCItemB at h
    rw [if_neg hc] at h
    simp only [Bool.and_eq_true, Bool.or_eq_true] at h
    rcases h.1 with ha | hk
    · exact .simple data cm xs ha h.2
    · exact .kv data cm xs hk h.2
  · intro x hx h
    cases x with
    | tree data cm xs => exact (hx _ _ _ rfl).elim
    | _ => cases h
  · intro _; exact .nil
  · intro t r ih1 ih2 h
    simp only [shapeCItemsB, Bool.and_eq_true] at h
    exact .cons t r (ih1 h.1) (ih2 h.2)

theorem shapeC_of_B : (t : R) → shapeCItemB t = true → ShapeC t := shapeC_of_B_both.1
theorem shapeCs_of_B : (ts : List R) → shapeCItemsB ts = true → ShapeCs ts := shapeC_of_B_both.2

/-- non-vacuity: `MAP NAME "x" END` as Lark builds it satisfies the shape premise -/
example : ShapeItems [.tree s%"composite" none [.tree s%"composite_type" none [.tok ⟨s%"MAP", s%"MAP", .str s%"MAP", .int 1, .int 1⟩],
    .tree s%"composite_body" none [.tree s%"attr" none [.tok ⟨s%"UNQUOTED_STRING", s%"NAME", .str s%"NAME", .int 1, .int 5⟩,
      .tree s%"string" none [.tok ⟨s%"DOUBLE_QUOTED_STRING", s%"\"x\"", .str s%"\"x\"", .int 1, .int 10⟩]]]]] :=
  .cons _ _ (.block _ _ _ _ (by decide) (.cons _ _ (.simple _ _ _ (by decide) (by decide)) .nil)) .nil

end Mappy.Transformer
