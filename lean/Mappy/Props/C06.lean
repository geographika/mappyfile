/-
  C06 — formatting options never change content.  Theorems about Model/Printer.lean (tied to pprint.py by
  the exact-string `pp` correspondence).  `contents` is what the printed lines say apart from layout:
  (kind, key text, value text) of every non-comment line.
-/
import Mappy.Lemmas.PrinterRel
import Mappy.Gen.Props

namespace Mappy.Printer

def content (l : Line) : Option (Kind × Str × Str) :=
  if l.kind = .comment then none else some (l.kind, l.key, l.val)
def contents (ls : List Line) : List (Kind × Str × Str) := ls.filterMap content

theorem contents_append (a b : List Line) : contents (a ++ b) = contents a ++ contents b := by
  simp [contents, List.filterMap_append]

theorem contents_cons (l : Line) (r : List Line) : contents (l :: r) = (content l).toList ++ contents r := by
  simp only [contents, List.filterMap_cons]
  cases content l <;> rfl

theorem contents_comments (ls : List Line) (h : ∀ l ∈ ls, l.kind = .comment) : contents ls = [] := by
  induction ls with
  | nil => rfl
  | cons l r ih =>
    simp only [contents_cons, content, h l (by simp), if_true]
    exact ih fun x hx => h x (by simp [hx])

theorem endLine_content (o o' : Opts) (lvl : Nat) (key : Str) : content (endLine o lvl key) = content (endLine o' lvl key) := rfl

theorem contents_closed (o o' : Opts) : Closed o o' fun _ a b => contents a = contents b where
  nil := rfl
  attr h := by simp only [contents_cons, content, h]
  comments ht ht' h := by rw [contents_append, contents_append, contents_comments _ ht, contents_comments _ ht', h]
  append ha hb := by rw [contents_append, contents_append, ha, hb]
  block hb := by simp only [contents_append, hb, contents_cons, endLine_content o o']

def Sim (a b : Res (List Line)) : Prop := a.map contents = b.map contents

theorem Sim.of_lift {n : Nat} {a b : Res (List Line)} (h : Lift (fun _ a b => contents a = contents b) n a b) : Sim a b := by
  rcases h.cases with ⟨x, y, rfl, rfl, hxy⟩ | ⟨e, rfl, rfl⟩
  · exact congrArg Except.ok hxy
  · rfl

theorem Sim.map_wrap {a b : Res (List Line)} (h : Sim a b) (pre pre' post post' : List Line)
    (hpre : contents pre = contents pre') (hpost : contents post = contents post') :
    Sim (a.map (fun x => pre ++ x ++ post)) (b.map (fun x => pre' ++ x ++ post')) := by
  cases a <;> cases b <;> simp_all [Sim, Except.map, contents_append]

def SameContentOpts (o o' : Opts) : Prop := o.quote = o'.quote ∧ o.sepComplex = o'.sepComplex

theorem fmt_sim (o o' : Opts) (hq : o.quote = o'.quote) (T : Table) : (j : J) → (level : Nat) →
    Sim (fmt o T level j) (fmt o' T level j) :=
  fun j level => .of_lift ((fmt_lift (contents_closed o o') hq T).1 j level)
theorem fmtItems_sim (o o' : Opts) (hq : o.quote = o'.quote) (T : Table) : (f : Fields) → (level : Nat) →
    (ty : Option Str) → (c : Fields) → (al al' : Nat) →
    Sim (fmtItems o T level ty c al f) (fmtItems o' T level ty c al' f) :=
  fun f level ty c al al' => .of_lift ((fmt_lift (contents_closed o o') hq T).2.1 f level ty c al al')
theorem fmtList_sim (o o' : Opts) (hq : o.quote = o'.quote) (T : Table) : (xs : List J) → (level : Nat) →
    Sim (fmtList o T level xs) (fmtList o' T level xs) :=
  fun xs level => .of_lift ((fmt_lift (contents_closed o o') hq T).2.2 xs level)

/-- a root object: the three key/value block types are printed one level in, which a relation that ignores the depth
does not see -/
theorem rootLines_sim (o o' : Opts) (hq : o.quote = o'.quote) (T : Table) (x : J) :
    Lift (fun _ a b => contents a = contents b) 0 (rootLines o T x) (rootLines o' T x) := by
  unfold rootLines
  split
  · split
    · exact .error _
    · exact ite_rel (fun _ => keyDict_lift (contents_closed o o') hq _ 0 _) fun _ =>
        (fmt_lift (contents_closed o o') hq T).1 _ 0
    · exact .error _
  · exact .error _

theorem go_sim (o o' : Opts) (hq : o.quote = o'.quote) (T : Table) (rs : List J) :
    Sim (pprintLines.go o T rs) (pprintLines.go o' T rs) := by
  refine .of_lift (n := 0) ?_
  induction rs with
  | nil => rfl
  | cons x r ih => exact .cat (contents_closed o o') (rootLines_sim o o' hq T x) ih

/-- C06 (layout options): for EVERY pair of option records that agree on `quote` and
`separate_complex_types` — any indent, any spacer string, any newline string, `end_comment`,
`align_values` — and every dictionary (or list of root dictionaries), printing either fails with the
same error or yields lines that say the same thing: the same sequence of (kind, key text, value text),
comment lines aside.  (Lark then reads equal token sequences into equal dictionaries: parser gap,
exercised by the oracle.) -/
theorem C06_layout_invariant (o o' : Opts) (h : SameContentOpts o o') (T : Table) (c : J) :
    (pprintLines o T c).map contents = (pprintLines o' T c).map contents := by
  rw [pprintLines_roots, pprintLines_roots, h.2]
  cases rootsOf c with
  | error e => rfl
  | ok rs => exact go_sim o o' h.1 T _

/-- `separate_complex_types` is a stable partition of each object's keys: the simple keys in their
original relative order, then the block-valued keys in their original relative order … -/
theorem C06_sep_stable (level : Nat) (f : Fields) :
    separateComplex level f =
      f.filter (fun kv => !isComplexType level kv.1 kv.2) ++ f.filter (fun kv => isComplexType level kv.1 kv.2) := rfl

/-- … it is a permutation: no key or value is added, dropped or changed … -/
theorem C06_sep_perm (level : Nat) (f : Fields) : (separateComplex level f).Perm f :=
  List.perm_append_comm.trans (List.filter_append_perm (fun kv => isComplexType level kv.1 kv.2) f)

/-- … and it is idempotent. -/
theorem C06_sep_idem (level : Nat) (f : Fields) :
    separateComplex level (separateComplex level f) = separateComplex level f := by
  simp [separateComplex, List.filter_append, List.filter_filter]
  have : ∀ l : Fields, l.filter (fun _ => false) = [] := fun l => by simp
  simp [this]

/-- non-vacuity (test on literals): two different layouts of a nested document say the same thing -/
example :
    let o : Opts := ⟨2, [' '], '"', ['\n'], true, true, false⟩
    let o' : Opts := ⟨7, ['\t'], '"', ['\r', '\n'], false, false, false⟩
    let d : J := .dict [(s%"__type__", .str s%"map"), (s%"name", .str s%"x"),
      (s%"layers", .list [.dict [(s%"__type__", .str s%"layer"), (s%"metadata", .dict [(s%"a", .str s%"b")])]])]
    SameContentOpts o o' ∧ ((pprintLines o Gen.props d).map contents).toOption.map List.length = some 8 := by
  refine ⟨⟨rfl, rfl⟩, ?_⟩
  decide

end Mappy.Printer
