/-
  C03 — pretty-printed text says exactly what the dictionary says.  Theorems about Model/Printer.lean
  (tied to pprint.py by the exact-string `pp` and `format_value` correspondences).
  Hidden `__name__` keys never contribute anything; then the lexical class of every value
  shape, universally in the value, with the schema-table obligation over the regenerated Gen tables.
-/
import Mappy.Lemmas.PrinterEq
import Mappy.Lemmas.FormatValue
import Mappy.Lemmas.Quoter
import Mappy.Lemmas.Assoc
import Mappy.Gen.Props
import Mappy.Gen.Shapes

namespace Mappy.Printer

/-- a hidden bookkeeping key other than the two the printer reads (`__type__`, `__comments__`) -/
def isHiddenKey (k : Str) : Bool := isMetaKey k && !(k = s%"__type__") && !(k = s%"__comments__")

def dropHidden (f : Fields) : Fields := f.filter (fun kv => !isHiddenKey kv.1)

theorem lookup_dropHidden (k : Str) (f : Fields) (hk : isHiddenKey k = false) :
    lookup k (dropHidden f) = lookup k f :=
  lookup_filter k _ (fun _ => by simp [hk]) f

theorem maxKeyLen_filter (p : Str × J → Bool) (f : Fields) (hp : ∀ kv ∈ f, p kv = false → isMetaKey kv.1 = true) :
    maxKeyLen (f.filter p) = maxKeyLen f := by
  induction f with
  | nil => rfl
  | cons kv r ih =>
    obtain ⟨k, v⟩ := kv
    have ih := ih fun kv h => hp kv (List.mem_cons_of_mem _ h)
    cases h : p (k, v)
    · rw [List.filter_cons_of_neg (by simp [h]), ih, maxKeyLen, hp _ (List.mem_cons_self ..) h]
      rfl
    · rw [List.filter_cons_of_pos h, maxKeyLen, maxKeyLen, ih]

theorem fmtItems_filter (o : Opts) (T : Table) (level : Nat) (ty : Option Str) (c : Fields) (al : Nat)
    (p : Str × J → Bool) (f : Fields) (hp : ∀ kv ∈ f, p kv = false → isMetaKey kv.1 = true) :
    fmtItems o T level ty c al (f.filter p) = fmtItems o T level ty c al f := by
  induction f with
  | nil => rfl
  | cons kv r ih =>
    obtain ⟨k, v⟩ := kv
    have ih := ih fun kv h => hp kv (List.mem_cons_of_mem _ h)
    rw [fmtItems_cons]
    cases h : p (k, v)
    · rw [List.filter_cons_of_neg (by simp [h]), ih, entry_meta (hp _ (List.mem_cons_self ..) h), cat_nil]
    · rw [List.filter_cons_of_pos h, fmtItems_cons, ih]

/-- C03 (hidden keys): removing every `__name__` key other than `__type__` / `__comments__` from an
object — e.g. `__position__`, or anything a user stored under such a name — changes nothing in what is
printed for it, under every option record.  (It holds for each object separately, hence at every depth.) -/
theorem C03_hidden_keys_silent (o : Opts) (T : Table) (level : Nat) (f : Fields) :
    fmt o T level (.dict (dropHidden f)) = fmt o T level (.dict f) := by
  have hc : isHiddenKey s%"__comments__" = false := by decide
  have ht : isHiddenKey s%"__type__" = false := by decide
  have hp : ∀ kv ∈ f, (!isHiddenKey kv.1) = false → isMetaKey kv.1 = true := fun _ _ h => by
    simp only [isHiddenKey, Bool.not_eq_false', Bool.and_eq_true] at h
    exact h.1.1
  have hi : ∀ ty c al, fmtItems o T level ty c al (dropHidden f) = fmtItems o T level ty c al f :=
    fun ty c al => fmtItems_filter o T level ty c al _ f hp
  have hl : maxKeyLen (dropHidden f) = maxKeyLen f := maxKeyLen_filter _ f hp
  simp only [fmt, hi, wrapObj, commentsOf, typeOf, alignedOf, hl, lookup_dropHidden _ f hc, lookup_dropHidden _ f ht]

/-- the same inside METADATA-like blocks: there every `__name__` key is skipped -/
theorem C03_kv_hidden_silent (o : Opts) (level al : Nat) (c : Fields) (d : Fields) :
    kvLines o level al c (d.filter (fun kv => !isMetaKey kv.1)) = kvLines o level al c d := by
  induction d with
  | nil => rfl
  | cons kv r ih =>
    obtain ⟨k, v⟩ := kv
    simp only [List.filter_cons]
    by_cases hm : isMetaKey k = true
    · simp only [hm, Bool.not_true, Bool.false_eq_true, if_false, kvLines, if_true]; exact ih
    · have hm' : isMetaKey k = false := by simpa using hm
      simp only [hm', Bool.not_false, if_true, kvLines, Bool.false_eq_true, if_false, ih]

/-- so `C03_hidden_keys_silent` also holds after the `separate_complex_types` pre-pass -/
theorem sep_dropHidden (level : Nat) (f : Fields) :
    separateComplex level (dropHidden f) = dropHidden (separateComplex level f) := by
  simp only [separateComplex, dropHidden, List.filter_append, List.filter_filter, Bool.and_comm]

open Quoter

def isQuoted (q : Char) (t : Str) : Bool := decide (t.length ≥ 2) && inQuotesC q t

def endsI (s : Str) : Bool := endsWith s%"'i" s || endsWith s%"\"i" s

/-- no alternative of the option list claims the string -/
def optsPlain (s : Str) : List Opt → Bool
  | [] => !inSlashes s
  | o :: r => !enumHas o (lower s) && !(o.isExpr && endsI s) && optsPlain s r

/-- a free string: nothing about it makes the printer treat it as an expression, binding, list,
regular expression or enumerated word (the property's "free strings"; strings that look like those
are the documented exclusion) -/
def plainStr (attr : Str) (p : CellProps) (s : Str) : Bool :=
  if p.typeString then !p.isExpr || (!inSlashes s && !endsI s)
  else match p.opts with
    | some os => !inParenthesis s && !(attr = s%"expression" && inBraces s) && !(attr ≠ s%"text" && inBrackets s) &&
        !(startsWith s%"NOT " s && inParenthesis (s.drop 4)) && optsPlain s os
    | none => false

theorem addQuotes_quoted (q : Char) (x : Str) : isQuoted q (addQuotes q x) = true := by
  simp only [isQuoted, inQuotesC_addQuotes, Bool.and_true, decide_eq_true_eq]
  simp [addQuotes]

theorem checkOptionsList_plain (q : Char) (s : Str) (os : List Opt) (h : optsPlain s os = true) :
    checkOptionsList q s os = addQuotes q s := by
  fun_induction checkOptionsList q s os with
  | case1 hs => simp [optsPlain, hs] at h  -- a regular expression
  | case2 => rfl
  | case3 o r h1 | case4 o r h1 => simp [optsPlain, h1] at h  -- an enumerated word
  | case5 o r _ h2 => simp [optsPlain, endsI, h2] at h  -- ends like a case-insensitive expression
  | case6 o r _ _ ih => exact ih (by simp only [optsPlain, Bool.and_eq_true] at h; exact h.2)

theorem escape_addQuotes_quoted (q : Char) (x : Str) : isQuoted q (escapeQuotes q (addQuotes q x)) = true := by
  simp only [escapeQuotes, inQuotesC_addQuotes, if_true, addQuotes_quoted]

/-- sufficient condition, read off the cell's schema abstraction, for every value of shape `sh` to be
printed in the lexical class MapServer requires -/
def okFor (attr : Str) (p : CellProps) : Shape → Bool
  | .str | .hexcolor => !p.hasEnum && (p.typeString || p.opts.isSome)
  | .num => p.hasEnum || !p.typeString
  | .bool => true
  | .binding => !p.hasEnum && !p.typeString && p.opts.isSome && !(attr = s%"text")
  | .expr | .listexpr => !p.hasEnum && !p.typeString && p.opts.isSome
  | .regex => !p.hasEnum && ((p.typeString && p.isExpr) || (!p.typeString && p.opts.isSome))
  | .enumw w =>
    -- finite: evaluated for both quote characters, as written in upper and in lower case;
    -- COMPOP takes a string on purpose and GEOMTRANSFORM "end" must stay quoted (END is reserved)
    attr = s%"compop" || w = s%"end" ||
      (['"', '\''].all fun q =>
        formatValue q attr p (.str (upper w)) == .ok (upper w) && formatValue q attr p (.str w) == .ok (upper w))

/-- booleans are always printed bare -/
theorem C03_bool_bare (q : Char) (attr : Str) (p : CellProps) (b : Bool) :
    formatValue q attr p (.bool b) = .ok (if b then s%"TRUE" else s%"FALSE") := rfl

/-- numbers are printed bare wherever the schema admits a number -/
theorem C03_int_bare (q : Char) (attr : Str) (p : CellProps) (n : Int) (h : okFor attr p .num = true) :
    formatValue q attr p (.int n) = .ok (intStr n) := by
  rw [formatValue_int]
  exact if_pos h

theorem C03_float_bare (q : Char) (attr : Str) (p : CellProps) (x : Str) (h : okFor attr p .num = true) :
    formatValue q attr p (.flt x) = .ok x := by
  rw [formatValue_flt]
  exact if_pos h

theorem formatValue_plain (q : Char) (attr : Str) (p : CellProps) (s : Str)
    (h : okFor attr p .str = true) (hs : plainStr attr p s = true) :
    formatValue q attr p (.str s) =
      .ok (if p.typeString then addQuotes q s else escapeQuotes q (addQuotes q s)) := by
  simp only [okFor, Bool.and_eq_true, Bool.not_eq_true'] at h
  obtain ⟨he, _⟩ := h
  rw [formatValue_str, he]
  unfold plainStr at hs
  cases ht : p.typeString
  · rw [ht] at hs
    cases ho : p.opts with
    | none => rw [ho] at hs; cases hs
    | some os =>
      rw [ho] at hs
      have hs : (guardsFree attr s && optsPlain s os) = true := hs
      simp only [Bool.and_eq_true] at hs
      simp only [Bool.false_eq_true, if_false, hs.1, if_true, checkOptionsList_plain q s os hs.2]
  · rw [ht] at hs
    simp only [if_true, Bool.or_eq_true, Bool.not_eq_true', Bool.and_eq_true, endsI] at hs
    cases hx : p.isExpr
    · simp
    · have hs' := hs.resolve_left (by simp [hx])
      have : (endsWith s%"'i" s || endsWith s%"\"i" s) = false := hs'.2
      simp [hs'.1, this]

/-- free strings are printed quoted -/
theorem C03_string_quoted (q : Char) (attr : Str) (p : CellProps) (s : Str)
    (h : okFor attr p .str = true) (hs : plainStr attr p s = true) :
    ∃ t, formatValue q attr p (.str s) = .ok t ∧ isQuoted q t = true := by
  refine ⟨_, formatValue_plain q attr p s h hs, ?_⟩
  split
  · exact addQuotes_quoted q s
  · exact escape_addQuotes_quoted q s

theorem formatValue_guarded (q : Char) (attr : Str) (p : CellProps) (s : Str) (he : p.hasEnum = false)
    (ht : p.typeString = false) (hg : guardsFree attr s = false) :
    formatValue q attr p (.str s) = .ok (escapeQuotes q s) := by
  rw [formatValue_str, he, ht, hg]
  cases p.opts <;> rfl

/-- attribute bindings are printed unquoted (verbatim unless wrapped in the output quote) -/
theorem C03_binding_bare (q : Char) (attr : Str) (p : CellProps) (s : Str)
    (h : okFor attr p .binding = true) (hb : inBrackets s = true) (hp : inParenthesis s = false)
    (hc : (attr = s%"expression" && inBraces s) = false) :
    formatValue q attr p (.str s) = .ok (escapeQuotes q s) := by
  simp only [okFor, Bool.and_eq_true, Bool.not_eq_true', decide_eq_false_iff_not] at h
  obtain ⟨⟨⟨he, ht⟩, _⟩, ha⟩ := h
  exact formatValue_guarded q attr p s he ht (by simp [guardsFree, hb, ha])

/-- parenthesised expressions are printed unquoted -/
theorem C03_expression_bare (q : Char) (attr : Str) (p : CellProps) (s : Str)
    (h : okFor attr p .expr = true) (hp : inParenthesis s = true) :
    formatValue q attr p (.str s) = .ok (escapeQuotes q s) := by
  simp only [okFor, Bool.and_eq_true, Bool.not_eq_true'] at h
  obtain ⟨⟨he, ht⟩, _⟩ := h
  exact formatValue_guarded q attr p s he ht (by simp [guardsFree, hp])

/-- list expressions `{a,b}` are printed unquoted at EXPRESSION -/
theorem C03_listexpr_bare (q : Char) (p : CellProps) (s : Str)
    (h : okFor s%"expression" p .listexpr = true) (hb : inBraces s = true) :
    formatValue q s%"expression" p (.str s) = .ok (escapeQuotes q s) := by
  simp only [okFor, Bool.and_eq_true, Bool.not_eq_true'] at h
  obtain ⟨⟨he, ht⟩, _⟩ := h
  exact formatValue_guarded q _ p s he ht (by simp [guardsFree, hb])

theorem checkOptionsList_regex (q : Char) (s : Str) (os : List Opt) (hs : inSlashes s = true)
    (h : os.all (fun o => !enumHas o (lower s)) = true) : checkOptionsList q s os = s := by
  fun_induction checkOptionsList q s os with
  | case1 | case5 => rfl
  | case2 hns => exact absurd hs hns
  | case3 o r h1 | case4 o r h1 => simp [h1] at h  -- an enumerated word
  | case6 o r _ _ ih => exact ih (by simp only [List.all_cons, Bool.and_eq_true] at h; exact h.2)

/-- regular expressions `/re/` and `/re/i` are printed unquoted -/
theorem C03_regex_bare (q : Char) (attr : Str) (p : CellProps) (s : Str)
    (h : okFor attr p .regex = true) (hs : inSlashes s = true) (hp : inParenthesis s = false)
    (hb : inBraces s = false) (hk : inBrackets s = false) (hn : startsWith s%"NOT " s = false)
    (hi : endsI s = false)
    (he : ∀ os, p.opts = some os → os.all (fun o => !enumHas o (lower s)) = true) :
    formatValue q attr p (.str s) = .ok (escapeQuotes q s) ∨ formatValue q attr p (.str s) = .ok s := by
  simp only [okFor, Bool.and_eq_true, Bool.not_eq_true', Bool.or_eq_true] at h
  obtain ⟨hen, h⟩ := h
  rw [formatValue_str, hen]
  rcases h with ⟨ht, hx⟩ | ⟨ht, ho⟩
  · right; simp [ht, hx, hs]
  · left
    cases hopts : p.opts with
    | none => simp [hopts] at ho
    | some os =>
      have hg : guardsFree attr s = true := by simp [guardsFree, hp, hb, hk, hn]
      simp only [ht, Bool.false_eq_true, if_false, hg, if_true, checkOptionsList_regex q s os hs (he os hopts)]

/-- every (object type, keyword, admissible value shape) of the regenerated schema tables satisfies
the sufficient condition — the finite part of the lexical-class claim, checked by the kernel on the tables generated
from the schema files. -/
theorem C03_table :
    Gen.shapes.all (fun c =>
      match cellOf Gen.props c.1.1 c.1.2 with
      | some p => c.2.all (okFor c.1.2 p)
      | none => false) = true := by
  decide +kernel

/-- `C03_table`, unpacked -/
theorem C03_cell_ok (t a : Str) (shs : List Shape) (sh : Shape) (hc : ((t, a), shs) ∈ Gen.shapes) (hs : sh ∈ shs) :
    ∃ p, cellOf Gen.props t a = some p ∧ okFor a p sh = true := by
  have h := C03_table
  rw [List.all_eq_true] at h
  have h1 := h ((t, a), shs) hc
  simp only at h1
  cases hp : cellOf Gen.props t a with
  | none => simp [hp] at h1
  | some p =>
    simp only [hp, List.all_eq_true] at h1
    exact ⟨p, rfl, h1 sh hs⟩

/-- an empty (auto-created) dict is refused, at every keyword -/
theorem C03_empty_dict_refused (q : Char) (attr : Str) (p : CellProps) :
    formatValue q attr p (.dict []) = .error .valueError := rfl

/-- non-vacuity (tests on literals) -/
example : ((s%"layer", s%"name"), [Shape.str]) ∈ Gen.shapes := by decide
example : (cellOf Gen.props s%"class" s%"expression").map (fun p => (plainStr s%"expression" p s%"abc def", formatValue '"' s%"expression" p (.str s%"abc def")))
    = some (true, .ok s%"\"abc def\"") := by decide

end Mappy.Printer
