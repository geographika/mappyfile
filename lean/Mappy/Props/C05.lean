/-
  C05 — surface syntax does not change meaning (tree level; the tokenisation, by Lark's lexer, is trusted and not modelled).
  Theorems about Model/Transformer.lean: what the call-backs store does not depend on keyword letter case, on token
  positions (hence on whitespace, line-break kind and comments, which Lark drops before the tree is built), on the
  quote style of a string, or on quoting a bare word.
-/
import Mappy.Props.C02
import Mappy.Model.Retype

namespace Mappy.Transformer

/-- the key a keyword token yields depends only on its lower-cased text -/
theorem C05_keyword_case (k k' : Tok) (s s' : Str) (hk : k.val = .str s) (hk' : k'.val = .str s')
    (h : lower s = lower s') : valLower k = valLower k' := by
  simp [valLower, hk, hk', h]

theorem lower_lower (s : Str) : lower (lower s) = lower s := lower_idem s

/-- `MAP`, `map`, `Map` … : a block's dict depends on the type token only through its lower-cased text (plain load:
no positions) -/
theorem C05_block_case_and_position (cfg : Cfg) (S Rp : List Str) (key key' : Tok) (s s' : Str) (items : List R)
    (hp : cfg.pos = false) (hk : key.val = .str s) (hk' : key'.val = .str s') (h : lower s = lower s') :
    compositeBody cfg S Rp key items = compositeBody cfg S Rp key' items := by
  unfold compositeBody
  rw [C05_keyword_case key key' s s' hk hk' h]
  cases valLower key' with
  | error e => rfl
  | ok kn => simp [initState, hp]

/-- a step of `composite` in a plain load ignores the recorded position of the attribute -/
theorem C05_attrItem_position_free (cfg : Cfg) (Rp : List Str) (st : CState) (key : Str) (v pos pos' : J) (c : Option J)
    (hpd : st.pd = none) : attrItem cfg Rp st key v pos c = attrItem cfg Rp st key v pos' c := by
  simp [attrItem, hpd]

/-- the value `attr` stores for a single-token value does not depend on where the tokens are -/
theorem C05_attr_value_position_free (k v : Tok) (l c l' c' l2 c2 l2' c2' : J) (r r' : R)
    (h : attr [.tok { k with line := l, col := c }, .tok { v with line := l2, col := c2 }] = .ok r)
    (h' : attr [.tok { k with line := l', col := c' }, .tok { v with line := l2', col := c2' }] = .ok r') :
    ∃ kvs kvs' key, r = .adict kvs ∧ r' = .adict kvs' ∧ lookupAV key kvs = lookupAV key kvs' ∧
      valLower k = .ok key := by
  obtain ⟨kn, hk, hu⟩ := attr_key_ok h
  cases (attr_one _ _ kn hk hu).symm.trans h
  cases (attr_one _ _ kn (show valLower { k with line := l', col := c' } = .ok kn from hk) hu).symm.trans h'
  refine ⟨_, _, kn, rfl, rfl, ?_, hk⟩
  rw [lookupAV_attrDict _ _ _ _ hu, lookupAV_attrDict _ _ _ _ hu]
  rfl

/-- `"s"` and `'s'` store the same string … -/
theorem C05_quote_style (s : Str) : cleanString ('"' :: s ++ ['"']) = cleanString ('\'' :: s ++ ['\'']) := by
  rw [C02_quotes_outer_only '"' (Or.inl rfl), C02_quotes_outer_only '\'' (Or.inr rfl)]

/-- … and so does the bare word, when it is not itself wrapped in quotes -/
theorem C05_bare_word (w : Str) (h : Quoter.inQuotes '"' w = false) :
    cleanString w = cleanString ('"' :: w ++ ['"']) := by
  rw [C02_bare_unchanged w h, C02_quotes_outer_only '"' (Or.inl rfl)]

/-- key/value blocks: the stored pair depends on the key token only through its unquoted, lower-cased text -/
theorem C05_kv_case (a a' b : Tok) (ka ka' vb : Str) (ha : a.val = .str ka) (ha' : a'.val = .str ka') (hb : b.val = .str vb)
    (h : lower (cleanString ka) = lower (cleanString ka')) :
    pairKV (.seq false [.tok a, .tok b]) = pairKV (.seq false [.tok a', .tok b]) := by
  simp [pairKV, tokOf, strVal, ha, ha', hb, h, bind, Except.bind, pure, Except.pure]

end Mappy.Transformer

namespace Mappy.Retype

/-- **C05_retype_case_blind** — the token re-typing hook of `Parser.parse` (the one place where mappyfile itself looks at
token text before the tree exists) gives the same token type however the previous keyword and the word itself are
spelled: for every re-spelling `φ`, `ψ` that keeps the upper-cased text. (parser.py compares `previous.upper()` with
`"SYMBOL"` / `"NAME"` / `"IMAGEMODE"` and `t.value.upper()` with SYMBOL_ATTRIBUTES; `retypeWith` upper-cases both likewise.) -/
theorem C05_retype_case_blind (attrs : List Str) (φ ψ : Str → Str) (hφ : ∀ s, upper (φ s) = upper s) (hψ : ∀ s, upper (ψ s) = upper s)
    (prev : Option Str) (ty text : Str) :
    retypeWith attrs (prev.map φ) ty (ψ text) = retypeWith attrs prev ty text := by
  unfold retypeWith
  have : (prev.map φ).map upper = prev.map upper := by cases prev <;> simp [hφ]
  simp only [this, hψ]

/-- lower-casing a word is such a re-spelling -/
theorem upper_lower (s : Str) : upper (lower s) = upper s := Mappy.upper_lower s

end Mappy.Retype

