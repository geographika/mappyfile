/-
  C17 — Mapfile dicts behave as case-insensitive, insertion-ordered dicts.
  Property theorems only.  `step` is the model of the code (ordereddict.py, tied to the real class
  by the `cidict` correspondence); `Spec.step` is "an ordinary ordered dict keyed by the lower-cased
  keys" plus the documented default rule (missing object-list key ⇒ new empty list stored; other
  missing key with a factory ⇒ new empty dict stored; no factory ⇒ KeyError).
-/
import Mappy.Model.CIDict
import Mappy.Lemmas.Assoc
import Mappy.Lemmas.CIDict

namespace Mappy.CIDict
open Spec

theorem C17_construct_inv (f : Bool) (e kw : Fields) : Inv (construct f e kw) := by
  rw [construct_eq]; exact (LowerNodup.nil.pour e).pour kw

/-- Construction is "pour the pairs, case-folded, into an empty ordered dict". -/
theorem C17_construct_spec (f : Bool) (e kw : Fields) :
    construct f e kw = ⟨f, pour (pour [] e) kw⟩ := construct_eq f e kw

/-- copy / deepcopy / pickle round trips give an equal dictionary with the same factory
(hence the same behaviour under every later operation sequence). -/
theorem C17_copies_equal (s : St) (h : Inv s) :
    copy s = s ∧ deepcopy s = s ∧ pickleRoundtrip s = s := by
  refine ⟨construct_self s h, construct_self s h, ?_⟩
  rw [pickleRoundtrip, construct_eq, updatePairs_eq]
  exact congrArg _ (pour_self s.items h)

/-- One-step refinement: on every state satisfying the invariant every operation of the code model
returns what the plain ordered dict over lower-cased keys returns and reaches the same state. -/
theorem C17_step_refines (s : St) (op : Op) (h : Inv s) : step s op = Spec.step s op := by
  obtain ⟨hc, hd, hp⟩ := C17_copies_equal s h
  cases op with
  | getitem k =>
    simp only [step, Spec.step, getitem, defaultGetitem, k_, lower_idem, odGet]
    cases lookup (lower k) s.items with
    | some v => rfl
    | none =>
      obtain ⟨_ | _, its⟩ := s
      · rfl
      · by_cases hm : lower k ∈ Gen.objectListKeys <;> simp [missing, setitem, odSet, k_, lower_idem, hm]
  | delitem k =>
    simp only [step, Spec.step, delitem, odDel, k_]
    by_cases hc : hasKey (lower k) s.items = true <;> simp [hc]
  | pop k d =>
    simp only [step, Spec.step, pop, k_, odGet]
    cases lookup (lower k) s.items with
    | some v => rfl
    | none => cases d <;> rfl
  | setdefault k d =>
    simp only [step, Spec.step, setdefault, contains, odContains, hasKey, k_, lower_idem, getitem, defaultGetitem,
      odGet, setitem, odSet]
    cases lookup (lower k) s.items <;> rfl
  | update e kw =>
    -- each argument goes through a temporary dict (`construct`), which `pour_via_temp` removes
    simp only [step, Spec.step, update, construct_eq, updatePairs_eq]
    cases e <;> simp [pour_nil, pour_via_temp]
  | setitem _ _ | contains _ | get _ _ | items => rfl
  | copy => simp only [step, Spec.step, hc]
  | deepcopy => simp only [step, Spec.step, hd]
  | pickle => simp only [step, Spec.step, hp]

theorem C17_inv_step (s : St) (op : Op) (h : Inv s) : Inv (step s op).1 := by
  rw [C17_step_refines s op h]
  fun_cases Spec.step s op with
  | case3 | case4 | case13 => exact LowerNodup.setKey h (lower_idem _) _  -- a key is stored
  | case5 | case9 => exact LowerNodup.delKey h _  -- a key is removed
  | case14 e kw => exact (LowerNodup.pour h _).pour kw  -- pairs are poured in
  | _ => exact h  -- the items stay as they are

/-- Lifted to every operation sequence (unbounded length): results and final state of the code model
equal those of the plain ordered dict keyed by lower-cased keys, and the invariant holds at the end. -/
theorem C17_runs_refine (ops : List Op) (s : St) (h : Inv s) :
    run s ops = Spec.run s ops ∧ Inv (run s ops).1 := by
  induction ops generalizing s with
  | nil => exact ⟨rfl, h⟩
  | cons op ops ih =>
    obtain ⟨e, hi⟩ := ih (step s op).1 (C17_inv_step s op h)
    simp only [run, Spec.run, ← C17_step_refines s op h]
    exact ⟨by rw [e], hi⟩

/-- Every dict built by the constructor and then driven through any operation sequence behaves like the
specification: the statement a user relies on. -/
theorem C17_from_construction (f : Bool) (e kw : Fields) (ops : List Op) :
    run (construct f e kw) ops = Spec.run ⟨f, pour (pour [] e) kw⟩ ops := by
  rw [← construct_eq]; exact (C17_runs_refine ops _ (C17_construct_inv f e kw)).1

/-- Stored keys are reported in lower case and in first-insertion order: a key that is already
present keeps its position, a new key goes to the end. -/
theorem C17_keys_order (s : St) (k : Str) (v : J) :
    keys (step s (.setitem k v)).1.items =
      if lower k ∈ keys s.items then keys s.items else keys s.items ++ [lower k] := by
  simp [step, setitem, odSet, k_, keys_setKey]

/-- a mixed-case construction satisfies the invariant, keeps the later value under the folded key, and a
missing object-list key reads as a new empty list -/
example : let s := construct true [(['N','a','M','e'], .int 1), (['n','A','m','e'], .int 2)] []
    Inv s ∧ s.items = [(['n','a','m','e'], .int 2)] ∧
    (step s (.getitem ['L','A','Y','E','R','S'])).2 = .val (.list []) := by
  refine ⟨C17_construct_inv _ _ _, by decide, by decide⟩

end Mappy.CIDict
