/-
  C11 — any input is either parsed or rejected with a parse error, promptly (partial: Lark's and `re`'s running time and
  exception discipline are third-party).  What is mappyfile's own: the re-typing hook is total (also on an empty value
  stack — the first token), changes nothing but three token types, and the grammar accepts each of the 19 block types
  at the root; INCLUDE expansion terminates (Props/C15: structural recursion on the nesting budget).
  In this file: the hook of Model/Retype.lean — its if-chain is walked once, in `retypeWith_cases`, of which
  `C11_retype_scope` and `C11_retype_first_token` are readings — and the obligation over the regenerated grammar table
  (Gen/Grammar.lean).
-/
import Mappy.Model.Retype
import Mappy.Model.Grammar
import Mappy.Gen.Grammar

namespace Mappy.Retype

/-- **C11_retype_total** — the hook yields a token type for every value stack (empty included), token type and text:
no IndexError / AttributeError can arise from it -/
theorem C11_retype_total (attrs : List Str) (prev : Option Str) (ty text : Str) :
    ∃ ty', retypeWith attrs prev ty text = ty' := ⟨_, rfl⟩

theorem retypeWith_cases (attrs : List Str) (prev : Option Str) (ty text : Str) :
    retypeWith attrs prev ty text = ty ∨
    ((ty = unq ∨ ty = s%"GRID" ∨ ty = s%"FEATURE") ∧ prev ≠ none ∧ retypeWith attrs prev ty text = unqValue) := by
  have some_ {s : Str} (h : prev.map upper = some s) : prev ≠ none := fun e => by rw [e] at h; cases h
  fun_cases retypeWith attrs prev ty text with
  | case1 _ ht h => exact .inr ⟨.inl ht, some_ (of_decide_eq_true (Bool.and_eq_true_iff.mp h).1), rfl⟩  -- a word after SYMBOL
  | case3 _ _ ht h => exact .inr ⟨.inr (.inl ht), some_ h, rfl⟩  -- GRID after NAME
  | case5 _ _ _ ht h => exact .inr ⟨.inr (.inr ht), some_ h, rfl⟩  -- FEATURE after IMAGEMODE
  | case2 | case4 | case6 | case7 => exact .inl rfl

/-- **C11_retype_scope** — it only ever turns UNQUOTED_STRING, GRID or FEATURE into UNQUOTED_STRING_VALUE … -/
theorem C11_retype_scope (attrs : List Str) (prev : Option Str) (ty text : Str)
    (h : retypeWith attrs prev ty text ≠ ty) :
    (ty = unq ∨ ty = s%"GRID" ∨ ty = s%"FEATURE") ∧ retypeWith attrs prev ty text = unqValue :=
  (retypeWith_cases attrs prev ty text).elim (absurd · h) fun ⟨a, _, b⟩ => ⟨a, b⟩

/-- … and never at the start of the input -/
theorem C11_retype_first_token (attrs : List Str) (ty text : Str) : retypeWith attrs none ty text = ty :=
  (retypeWith_cases attrs none ty text).elim id fun ⟨_, h, _⟩ => absurd rfl h

/-- a SYMBOL attribute keeps its type in any letter case -/
theorem C11_symbol_attribute_kept (attrs : List Str) (prev : Option Str) (text : Str) (h : attrs.contains (upper text) = true) :
    retypeWith attrs prev unq text = unq := by
  simp only [retypeWith, if_true, h, Bool.not_true, Bool.and_false, Bool.false_eq_true, if_false]

end Mappy.Retype

namespace Mappy.Roots
open Mappy

def R := Gen.rules

/-- the 19 block types of the property -/
def blockTypes : List Str :=
  [s%"CLASS", s%"CLUSTER", s%"COMPOSITE", s%"FEATURE", s%"GRID", s%"JOIN", s%"LABEL", s%"LAYER", s%"LEADER", s%"LEGEND",
   s%"MAP", s%"OUTPUTFORMAT", s%"QUERYMAP", s%"REFERENCE", s%"SCALEBAR", s%"SCALETOKEN", s%"STYLE", s%"WEB", s%"SYMBOL"]

/-- the literal `'X'i` as the grammar tables spell it -/
def lit (w : Str) : Str := '\'' :: w ++ ['\'', 'i']

/-- **C11_roots_accepted** — every one of the 19 block types is an alternative of `composite_type` (matched in any
letter case), a `composite` is `composite_type composite_body END` (or a key/value block), and `start` is one or more
composites: each block type can open a partial Mapfile at the root -/
theorem C11_roots_accepted :
    (∀ t ∈ blockTypes, (altsOf R s%"composite_type").contains ([lit t], []) = true) ∧
    (altsOf R s%"composite_type").length = 19 ∧
    (altsOf R s%"composite").contains ([s%"composite_type", s%"composite_body", s%"_END"], []) = true ∧
    (altsOf R s%"start").contains ([s%"__start_plus_0"], []) = true ∧
    sameAlts (altsOf R s%"__start_plus_0") [([s%"composite"], []), ([s%"__start_plus_0", s%"composite"], [])] = true ∧
    (altsOf R s%"composite_body").contains ([], []) = true := by decide +kernel

end Mappy.Roots
