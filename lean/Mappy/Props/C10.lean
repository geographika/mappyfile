/-
  C10 — expression rewriting preserves structure.  Theorems about Model/Expr.lean (tied to the
  transformer by the `exprnorm` correspondence on real Lark expression trees, exact strings; the ladder
  rules of mapfile.lark are tied to the constructors of `G` by the obligations of `Ladder` at the end of the file).
-/
import Mappy.Model.Expr
import Mappy.Model.Grammar
import Mappy.Gen.Grammar

namespace Mappy.Expr

def Bal (xs : List Tk) : Prop := ∀ d rest, closesLast (d + 1) (xs ++ rest) = closesLast (d + 1) rest

theorem Bal.nil : Bal [] := fun _ _ => rfl
theorem Bal.append {a b : List Tk} (ha : Bal a) (hb : Bal b) : Bal (a ++ b) := by
  intro d rest; rw [List.append_assoc, ha, hb]
theorem Bal.one (t : Tk) (h1 : t ≠ .lp) (h2 : t ≠ .rp) : Bal [t] := by
  intro d rest
  cases t with
  | lp => exact absurd rfl h1
  | rp => exact absurd rfl h2
  | _ => simp [closesLast]
theorem Bal.wrap {a : List Tk} (ha : Bal a) : Bal (wrap a) := by
  intro d rest
  simp only [Expr.wrap, List.cons_append, List.append_assoc, closesLast]
  rw [ha (d + 1)]
  simp [closesLast]
theorem Bal.infix {a b : List Tk} (ha : Bal a) (t : Tk) (h1 : t ≠ .lp) (h2 : t ≠ .rp) (hb : Bal b) :
    Bal (a ++ [t] ++ b) := (ha.append (Bal.one t h1 h2)).append hb

theorem bal_commaSep (args : List Str) : Bal (commaSep args) := by
  fun_induction commaSep args with
  | case1 => exact Bal.nil
  | case2 a => exact Bal.one _ (by simp) (by simp)
  | case3 a b r ih => exact (Bal.one (.atom a) (by simp) (by simp)).append ((Bal.one .comma (by simp) (by simp)).append ih)

theorem oneGroup_wrap_append {a : List Tk} (ha : Bal a) (rest : List Tk) :
    oneGroup (wrap a ++ rest) = rest.isEmpty := by
  show closesLast 1 (a ++ [.rp] ++ rest) = _
  rw [List.append_assoc, ha 0]; rfl

theorem oneGroup_wrap {a : List Tk} (ha : Bal a) : oneGroup (wrap a) = true := by
  simpa using oneGroup_wrap_append ha []

/-- the trees whose normal form is one parenthesised group -/
def grp : E → Bool
  | .call .. | .paren _ | .cmp .. | .and .. | .or .. => true
  | _ => false

/-- The invariant of `norm`: a normal form is balanced, and it is one group exactly for the trees of `grp`
and only with nothing behind it (otherwise it does not start with `(`, or its first group closes inside it).
The two parts need each other: a wrapped piece is a group because its inside is balanced. -/
theorem norm_inv (e : E) : Bal (norm e) ∧ ∀ rest, oneGroup (norm e ++ rest) = (grp e && rest.isEmpty) := by
  have wrapped {a : List Tk} (ha : Bal a) :
      Bal (wrap a) ∧ ∀ rest, oneGroup (wrap a ++ rest) = (true && rest.isEmpty) := ⟨ha.wrap, oneGroup_wrap_append ha⟩
  have tok (t : Tk) (h1 : t ≠ .lp) (h2 : t ≠ .rp) := Bal.one t h1 h2
  induction e with
  | atom s => exact ⟨tok _ (by simp) (by simp), fun _ => rfl⟩
  | call n args => exact wrapped ((tok _ (by simp) (by simp)).append (bal_commaSep args).wrap)
  | paren e ih =>
    have h0 : oneGroup (norm e) = grp e := by simpa using ih.2 []
    cases hg : grp e
    · simp only [norm, h0, hg, Bool.false_eq_true, if_false]; exact wrapped ih.1
    · simp only [norm, h0, hg, if_true]; exact ⟨ih.1, fun rest => by rw [ih.2, hg]; rfl⟩
  | neg e ih => exact ⟨(tok .neg (by simp) (by simp)).append ih.1, fun _ => rfl⟩
  | not e ih => exact ⟨(tok .not (by simp) (by simp)).append ih.1, fun _ => rfl⟩
  | bin op l r ihl ihr =>
    exact ⟨ihl.1.infix _ (by cases op <;> simp [BinOp.tk]) (by cases op <;> simp [BinOp.tk]) ihr.1,
      fun rest => by simp [norm, ihl.2, grp]⟩
  | cmp op l r ihl ihr => exact wrapped (ihl.1.infix _ (by simp) (by simp) ihr.1)
  | and l r ihl ihr => exact wrapped (ihl.1.infix _ (by simp) (by simp) ihr.1)
  | or l r ihl ihr => exact wrapped (ihl.1.infix _ (by simp) (by simp) ihr.1)

/-- C10: every normal form is parenthesis-balanced -/
theorem C10_bal_norm (e : E) : Bal (norm e) := (norm_inv e).1

theorem oneGroup_norm (e : E) : oneGroup (norm e) = grp e := by simpa using (norm_inv e).2 []

/-- C10: what is stored for a keyword — `norm` of the outermost `( … )` — is one parenthesised group,
i.e. a single `expression` value -/
theorem C10_top_oneGroup (e : E) : oneGroup (norm (.paren e)) = true := oneGroup_norm (.paren e)

/-- C10: the parentheses the rewriting adds never regroup operands — the tree re-read from the
normal form has the same operator tree, operands and operator spellings (shape = tree with explicit
parentheses erased) -/
theorem C10_shape_re (e : E) : shape (re e) = shape e := by
  induction e with
  | atom s => rfl
  | call n args => rfl
  | paren e ih => simp only [re]; split <;> simp [shape, ih]
  | neg e ih => simp [re, shape, ih]
  | bin op l r ihl ihr => simp [re, shape, ihl, ihr]
  | cmp op l r ihl ihr => simp [re, shape, ihl, ihr]
  | not e ih => simp [re, shape, ih]
  | and l r ihl ihr => simp [re, shape, ihl, ihr]
  | or l r ihl ihr => simp [re, shape, ihl, ihr]

theorem norm_paren (e : E) : norm (.paren e) = if grp e then norm e else wrap (norm e) := by
  rw [norm, oneGroup_norm]
theorem re_paren (e : E) : re (.paren e) = if grp e then re e else .paren (re e) := by
  rw [re, oneGroup_norm]

/-- C10: re-parsing the normalised string and normalising again yields the same string -/
theorem C10_norm_re (e : E) : norm (re e) = norm e := by
  -- `re` puts a `paren` around the trees that `norm` wraps: a group, so `norm` adds nothing to it
  have hp (x : E) (hx : grp x = true) : norm (.paren x) = norm x := by rw [norm_paren, if_pos hx]
  induction e with
  | atom s => rfl
  | call n args => exact hp _ rfl
  | paren e ih =>
    rw [re_paren, norm_paren]
    split
    · exact ih
    · rename_i hg; rw [norm_paren, ← oneGroup_norm, ih, oneGroup_norm, if_neg hg]
  | neg e ih => simp only [re, norm, ih]
  | bin op l r ihl ihr => simp only [re, norm, ihl, ihr]
  | cmp op l r ihl ihr => rw [re, hp _ rfl]; simp only [norm, ihl, ihr]
  | not e ih => simp only [re, norm, ih]
  | and l r ihl ihr => rw [re, hp _ rfl]; simp only [norm, ihl, ihr]
  | or l r ihl ihr => rw [re, hp _ rfl]; simp only [norm, ihl, ihr]

theorem G.mono_add {m : Nat} {ts : List Tk} {e : E} : ∀ k, G (m + k) ts e → G m ts e
  | 0, h => h
  | k + 1, h => G.mono_add k (G.lift (m + k) ts e h)

theorem G.mono {n : Nat} {ts : List Tk} {e : E} (h : G n ts e) (m : Nat) (hm : m ≤ n) : G m ts e := by
  obtain ⟨k, rfl⟩ := Nat.exists_eq_add_of_le hm
  exact G.mono_add k h

/-- the five arithmetic rules of the ladder as one (`l0`, `r0` only name the level) -/
theorem G.bin (op : BinOp) (l0 r0 : E) {a b : List Tk} {l r : E} (hl : G (E.bin op l0 r0).lvl a l)
    (hr : G ((E.bin op l0 r0).lvl + 1) b r) : G (E.bin op l0 r0).lvl (a ++ [op.tk] ++ b) (.bin op l r) := by
  cases op with
  | add => exact G.add _ _ _ _ hl hr
  | sub => exact G.sub _ _ _ _ hl hr
  | mul => exact G.mul _ _ _ _ hl hr
  | div => exact G.div _ _ _ _ hl hr
  | pow => exact G.pow _ _ _ _ hl hr

/-- the level at which a normal form is derived: a group is an atom -/
def glvl (e : E) : Nat := if oneGroup (norm e) then 6 else e.lvl

theorem glvl_eq (e : E) : glvl e = if grp e then 6 else e.lvl := by rw [glvl, oneGroup_norm]

theorem lvl_le_six (e : E) : e.lvl ≤ 6 := by
  cases e with
  | bin op l r => cases op <;> simp [E.lvl]
  | _ => simp [E.lvl]

theorem le_glvl (e : E) : e.lvl ≤ glvl e := by
  unfold glvl; split
  · exact lvl_le_six e
  · exact Nat.le_refl _

/-- C10: the normalised tokens are a sentence of the grammar ladder, derived as `re e` at the tree's
own level (level 6 when they form one group) — so no regrouping is needed to read them -/
theorem C10_derivable (e : E) (h : e.WF) : G (glvl e) (norm e) (re e) := by
  -- an operand derived at its own level serves at every level the discipline `WF` asks of it
  have at_ {x : E} {n : Nat} (g : G (glvl x) (norm x) (re x)) (hn : n ≤ x.lvl) : G n (norm x) (re x) :=
    g.mono n (Nat.le_trans hn (le_glvl x))
  -- the trees that `norm` wraps are derived as `expression` (level 6) from their inside at level 0
  have wrapped {x : E} {a : List Tk} {n : Nat} (g : G n a x) : G 6 (wrap a) (.paren x) := G.paren _ _ (g.mono 0 (Nat.zero_le _))
  induction e with
  | atom s => exact G.atom s
  | call n args => rw [glvl_eq]; exact wrapped (G.call n args h)
  | paren e ih =>
    have ih' := ih h
    rw [glvl_eq] at ih' ⊢
    rw [norm_paren, re_paren]
    cases hg : grp e
    · exact wrapped (hg ▸ ih')
    · rw [hg] at ih'; exact ih'
  | neg e ih => rw [glvl_eq]; exact G.neg _ _ (at_ (ih h.1) h.2)
  | not e ih => rw [glvl_eq]; exact G.not _ _ (at_ (ih h.1) h.2)
  | bin op l r ihl ihr => rw [glvl_eq]; exact G.bin op l r (at_ (ihl h.1) h.2.2.1) (at_ (ihr h.2.1) h.2.2.2)
  | cmp op l r ihl ihr => rw [glvl_eq]; exact wrapped (G.cmp op _ _ _ _ (at_ (ihl h.1) h.2.2.1) (at_ (ihr h.2.1) h.2.2.2))
  | and l r ihl ihr => rw [glvl_eq]; exact wrapped (G.and _ _ _ _ (at_ (ihl h.1) h.2.2.1) (at_ (ihr h.2.1) h.2.2.2))
  | or l r ihl ihr => rw [glvl_eq]; exact wrapped (G.or _ _ _ _ (at_ (ihl h.1) h.2.2.1) (at_ (ihr h.2.1) h.2.2.2))

def inorder : E → List Tk
  | .atom s => [.atom s]
  | .call n args => [.fn n] ++ commaSep args
  | .paren e => inorder e
  | .neg e => .neg :: inorder e
  | .bin op l r => inorder l ++ [op.tk] ++ inorder r
  | .cmp op l r => inorder l ++ [.cmp op] ++ inorder r
  | .not e => .not :: inorder e
  | .and l r => inorder l ++ [.and] ++ inorder r
  | .or l r => inorder l ++ [.or] ++ inorder r

def keep (t : Tk) : Bool := decide (t ≠ .lp ∧ t ≠ .rp)

theorem leaves_append (a b : List Tk) : leaves (a ++ b) = leaves a ++ leaves b := by simp [leaves]
theorem leaves_cons_keep (t : Tk) (a : List Tk) (h : t ≠ .lp ∧ t ≠ .rp) : leaves (t :: a) = t :: leaves a := by
  simp [leaves, h]
theorem leaves_wrap (a : List Tk) : leaves (wrap a) = leaves a := by
  simp [Expr.wrap, leaves, List.filter_append]

theorem leaves_commaSep (args : List Str) : leaves (commaSep args) = commaSep args := by
  fun_induction commaSep args with
  | case1 => rfl
  | case2 a => rfl
  | case3 a b r ih => rw [leaves_cons_keep _ _ (by simp), leaves_cons_keep _ _ (by simp), ih]

/-- C10: operands and comparison/arithmetic operator spellings are unchanged and in order — the
normal form, parentheses aside, is the in-order reading of the operator tree -/
theorem C10_leaves_in_order (e : E) : leaves (norm e) = inorder e := by
  fun_induction norm e with
  | case1 s => rfl  -- an operand
  | case2 n args => rw [inorder, leaves_wrap, leaves_append, leaves_wrap, leaves_commaSep]; rfl  -- a function call
  | case3 e _ ih => exact ih  -- parentheses around a group: dropped
  | case4 e _ ih => rw [leaves_wrap, ih, inorder]  -- other parentheses: kept
  | case5 e ih => rw [leaves_cons_keep _ _ (by simp), ih, inorder]  -- unary minus
  | case6 op l r ihl ihr =>  -- an arithmetic operator
    rw [leaves_append, leaves_append, ihl, ihr, inorder]
    congr 2
    cases op <;> rfl
  | case7 op l r ihl ihr => rw [leaves_wrap, leaves_append, leaves_append, ihl, ihr, inorder]; rfl  -- a comparison
  | case8 e ih => rw [leaves_cons_keep _ _ (by simp), ih, inorder]  -- NOT
  | case9 l r ihl ihr => rw [leaves_wrap, leaves_append, leaves_append, ihl, ihr, inorder]; rfl  -- AND
  | case10 l r ihl ihr => rw [leaves_wrap, leaves_append, leaves_append, ihl, ihr, inorder]; rfl  -- OR

/-- the wrapping test of mappyfile before commit d017167 ("starts with `(` and ends with `)`"): it holds of
`([a] + 1) * ([b] + 2)`, which is not one group, so the outer parentheses of `(([a] + 1) * ([b] + 2))` were dropped -/
def oldTest (ts : List Tk) : Bool := ts.head? = some .lp && ts.getLast? = some .rp
theorem C10_old_test_witness :
    let e := E.bin .mul (.paren (.bin .add (.atom s%"[a]") (.atom s%"1"))) (.paren (.bin .add (.atom s%"[b]") (.atom s%"2")))
    oldTest (norm e) = true ∧ oneGroup (norm e) = false := by decide

/-- `WF` holds of a tree that uses every level of the ladder -/
example : (E.or (.and (.cmp s%"=" (.atom s%"[a]") (.atom s%"1")) (.not (.cmp s%"eq" (.atom s%"[b]") (.atom s%"'x'"))))
    (.cmp s%">" (.bin .add (.atom s%"[c]") (.bin .mul (.atom s%"2") (.neg (.atom s%"[d]")))) (.call s%"length" [s%"[e]"]))).WF := by
  simp [E.WF, E.lvl]
/-- `str`: the inner group is kept, the product is wrapped once -/
example : str (.paren (.bin .mul (.paren (.bin .add (.atom s%"[a]") (.atom s%"1"))) (.atom s%"2"))) = s%"(([a] + 1) * 2)" := by decide

/-! ### the ladder of mapfile.lark is the ladder `G` was written from

`decide` obligations over the regenerated grammar tables: each rule of the expression ladder has exactly
the alternatives (in any order) that the constructors of `G` and the transformer's call-backs assume.
Swapping two levels, changing associativity or dropping an alias in mapfile.lark breaks one of them. -/
namespace Ladder
open Mappy

def R := Gen.rules

theorem or_test : sameAlts (altsOf R s%"or_test")
    [([s%"or_test", s%"'OR'i", s%"and_test"], []), ([s%"or_test", s%"'||'", s%"and_test"], []), ([s%"and_test"], [])] = true
    ∧ allExpand1 R s%"or_test" = true := by decide
theorem and_test : sameAlts (altsOf R s%"and_test")
    [([s%"and_test", s%"'AND'i", s%"comparison"], []), ([s%"and_test", s%"'&&'", s%"comparison"], []), ([s%"comparison"], [])] = true
    ∧ allExpand1 R s%"and_test" = true := by decide
theorem comparison : sameAlts (altsOf R s%"comparison")
    [([s%"comparison", s%"compare_op", s%"sum"], []), ([s%"sum"], [])] = true ∧ allExpand1 R s%"comparison" = true := by decide
theorem sum : sameAlts (altsOf R s%"sum")
    [([s%"product"], []), ([s%"sum", s%"'+'", s%"product"], s%"add"), ([s%"sum", s%"'-'", s%"product"], s%"sub")] = true
    ∧ allExpand1 R s%"sum" = true := by decide
theorem product : sameAlts (altsOf R s%"product")
    [([s%"unary_expr"], []), ([s%"product", s%"'*'", s%"unary_expr"], s%"mul"), ([s%"product", s%"'/'", s%"unary_expr"], s%"div"),
     ([s%"product", s%"'^'", s%"unary_expr"], s%"power")] = true ∧ allExpand1 R s%"product" = true := by decide
theorem unary_expr : sameAlts (altsOf R s%"unary_expr")
    [([s%"atom"], []), ([s%"'-'", s%"unary_expr"], s%"neg"), ([s%"'+'", s%"unary_expr"], [])] = true
    ∧ allExpand1 R s%"unary_expr" = true := by decide
theorem atom : sameAlts (altsOf R s%"atom") [([s%"func_call"], []), ([s%"value"], [])] = true
    ∧ allExpand1 R s%"atom" = true := by decide
theorem expression : sameAlts (altsOf R s%"expression") [([s%"'('", s%"or_test", s%"')'"], [])] = true := by decide
theorem not_expression : sameAlts (altsOf R s%"not_expression")
    [([s%"'!'", s%"comparison"], []), ([s%"'NOT'i", s%"comparison"], [])] = true := by decide
theorem func_call : sameAlts (altsOf R s%"func_call") [([s%"UNQUOTED_STRING", s%"'('", s%"func_params", s%"')'"], [])] = true := by decide
/-- expressions and NOT-expressions are values (so they can be operands and function arguments) -/
theorem value_has : (altsOf R s%"value").contains ([s%"expression"], []) = true ∧
    (altsOf R s%"value").contains ([s%"not_expression"], []) = true ∧ allExpand1 R s%"value" = true := by decide
/-- every comparison operator is a literal terminal kept by `!compare_op` -/
theorem compare_op : (R.filter (fun r => r.origin = s%"compare_op")).all (fun r => r.keepAll && r.expansion.length == 1) = true := by decide

end Ladder

end Mappy.Expr
