/- C19 — `create(type, version)` validates: the block types of group B (split for parallel kernel evaluation) -/
import Mappy.Props.C19Create
namespace Mappy.Create
theorem C19_create_valid_B : ∀ t ∈ groupB, classFaults t = (true, []) := by
  simp only [classFaults, faultsAt, createFaults, getVersioned_files]
  decide +kernel
end Mappy.Create
