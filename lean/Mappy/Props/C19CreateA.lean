/- C19 — `create(type, version)` validates: the block types of group A (split for parallel kernel evaluation) -/
import Mappy.Props.C19Create
namespace Mappy.Create
/- `map` reaches every bound written in the folder: its classes are the version points themselves -/
theorem C19_create_valid_A : ∀ t ∈ groupA, faultsAt versionPoints t = [] := by
  simp only [faultsAt, createFaults, getVersioned_files]
  decide +kernel
end Mappy.Create
