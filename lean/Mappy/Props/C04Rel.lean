/-
  The tree-level form of "a reload differs from what was printed only by the differences C01 allows": `RelJ d d'`
  relates two dictionaries with the same keys in the same order, the same nesting and list lengths, whose simple
  values are pairwise `AllowedDiff` (equal, upper-cased, or number → decimal string).  `normJ_rel`: `RelJ d (normJ T d)`
  for EVERY value and table, by induction over the value (`J.induct`); `C04_reload_related` is the case of a document.
-/
import Mappy.Props.C04Doc

namespace Mappy.Printer

mutual
inductive RelJ : J → J → Prop
  | same (j : J) : RelJ j j
  | dict {f g : Fields} : RelF f g → RelJ (.dict f) (.dict g)
inductive RelF : Fields → Fields → Prop
  | nil : RelF [] []
  | cons {k : Str} {v w : J} {r r' : Fields} : RelE v w → RelF r r' → RelF ((k, v) :: r) ((k, w) :: r')
inductive RelE : J → J → Prop
  | allowed {v w : J} : AllowedDiff v w → RelE v w
  | list {xs ys : List J} : RelL xs ys → RelE (.list xs) (.list ys)
  | dict {f g : Fields} : RelF f g → RelE (.dict f) (.dict g)
inductive RelL : List J → List J → Prop
  | nil : RelL [] []
  | cons {x y : J} {r r' : List J} : RelJ x y → RelL r r' → RelL (x :: r) (y :: r')
end

theorem RelE.refl (v : J) : RelE v v := .allowed (.inl rfl)

theorem RelJ.toE {v w : J} (h : RelJ v w) : RelE v w := by
  cases h with
  | same => exact .refl _
  | dict h => exact .dict h

theorem normE_rel (T : Table) (ty : Option Str) (a : Str) (v : J) (hv : RelJ v (normJ T v))
    (hl : RelL v.elems (normL T v.elems)) : RelE v (normE T ty a v) := by
  cases entry_view a v with
  | objs xs hm ho =>
    rw [normE_objs hm T ty xs ho]
    exact .list hl
  | obj hm hd hc =>
    rw [normE_obj hm hd T ty hc]
    exact hv.toE
  | attr hm hd hl' hg =>
    rw [normE_attr hm hd T ty hl' hg]
    exact .allowed (C04_reload_value_allowed T ty a v)
  | other hn _ =>
    rw [hn]
    exact .refl v

theorem normJ_rel_all (T : Table) :
    (∀ j, RelJ j (normJ T j)) ∧ (∀ f ty, RelF f (normF T ty f)) ∧ (∀ xs, RelL xs (normL T xs)) := by
  refine J.induct ?_ ?_ ?_ ?_ ?_ ?_
  · exact fun f ih => .dict (ih _)
  · intro j hj
    rw [normJ_atom T hj]
    exact .same j
  · exact fun _ => .nil
  · exact fun k v r hv hl hr ty => .cons (normE_rel T ty k v hv hl) (hr ty)
  · exact .nil
  · exact fun x r hx hr => .cons hx hr

theorem normJ_rel (T : Table) : (j : J) → RelJ j (normJ T j) := (normJ_rel_all T).1
theorem normF_rel (T : Table) : (f : Fields) → ∀ ty, RelF f (normF T ty f) := (normJ_rel_all T).2.1
theorem normL_rel (T : Table) : (xs : List J) → RelL xs (normL T xs) := (normJ_rel_all T).2.2

theorem normRoot_rel (T : Table) (x : J) : RelJ x (normRoot T x) := by
  rw [normRoot_eq]
  split
  · exact normJ_rel T x
  · exact .same x

/-- **C04_reload_related** — for EVERY dictionary and every schema table, the dictionary a reload gives back is related to
the one printed by `RelJ`: same keys in the same order at every object, same nesting, same list lengths, hidden keys and
data blocks identical, and every simple value equal, upper-cased (strings) or turned into its decimal string (numbers).
With the `reload` correspondence (`loads(dumps(d)) = normDoc d`, exact) this is C01's conclusion for every document the
correspondence covers. -/
theorem C04_reload_related (T : Table) (f : Fields) : RelJ (.dict f) (normDoc T (.dict f)) :=
  normRoot_rel T _

/-- … and for a list of roots -/
theorem C04_reload_related_roots (T : Table) : (xs : List J) → RelL xs (xs.map (normRoot T))
  | [] => .nil
  | x :: r => .cons (normRoot_rel T x) (C04_reload_related_roots T r)

/-- the relation is not trivial: it rejects a renamed key -/
example : ¬ RelF [(s%"name", .str s%"a")] [(s%"title", .str s%"a")] := by
  intro h
  cases h

end Mappy.Printer
