/-
  Base types shared by every model: strings as code-point lists, the JSON-like value type `J`
  (Python dict = ordered association list), Python error kinds.
  Core Lean only: a compiled driver cannot link against Mathlib.
-/
import Lean
open Lean in
/-- `s%"END"` elaborates to the code-point list `['E','N','D']` (a literal the kernel can compute with). -/
macro:max "s%" s:str : term => do
  let cs := s.getString.toList
  let elems := cs.map fun c => Syntax.mkCharLit c
  `(([$(elems.toArray),*] : List Char))

namespace Mappy

/-- Strings are lists of code points: proofs about `lower`, prefixes and suffixes are then list proofs,
and kernel `decide` never has to reduce UTF-8 byte arrays. -/
abbrev Str := List Char

def lowerC (c : Char) : Char :=
  if 65 ≤ c.toNat ∧ c.toNat ≤ 90 then Char.ofNat (c.toNat + 32) else c
def upperC (c : Char) : Char :=
  if 97 ≤ c.toNat ∧ c.toNat ≤ 122 then Char.ofNat (c.toNat - 32) else c
/-- ASCII lower-casing. Python's `str.lower` agrees with it on the strings the harness compares
(checked by the harness per case; see DESIGN §8). -/
def lower (s : Str) : Str := s.map lowerC
def upper (s : Str) : Str := s.map upperC

inductive PyErr where
  | keyError | indexError | typeError | attributeError | assertionError | valueError | ioError
  | unboundLocal | unsupported
  deriving DecidableEq, Repr, Inhabited

def PyErr.name : PyErr → String
  | .keyError => "KeyError" | .indexError => "IndexError" | .typeError => "TypeError"
  | .attributeError => "AttributeError" | .assertionError => "AssertionError"
  | .valueError => "ValueError" | .ioError => "IOError" | .unboundLocal => "UnboundLocalError"
  | .unsupported => "UNSUPPORTED"

/-- JSON-like values. `flt` carries the Python `repr` lexeme of a float (mappyfile never computes
with floats). `dict` is an insertion-ordered association list. `tup` is a Python tuple. -/
inductive J where
  | null
  | bool (b : Bool)
  | int (n : Int)
  | flt (s : Str)
  | str (s : Str)
  | list (xs : List J)
  | tup (xs : List J)
  | dict (kvs : List (Str × J))
  deriving Repr, Inhabited

abbrev Fields := List (Str × J)

mutual
def J.beq : J → J → Bool
  | .null, .null => true
  | .bool a, .bool b => a == b
  | .int a, .int b => a == b
  | .flt a, .flt b => a == b
  | .str a, .str b => a == b
  | .list a, .list b => J.beqL a b
  | .tup a, .tup b => J.beqL a b
  | .dict a, .dict b => J.beqF a b
  | _, _ => false
def J.beqL : List J → List J → Bool
  | [], [] => true
  | x :: xs, y :: ys => J.beq x y && J.beqL xs ys
  | _, _ => false
def J.beqF : Fields → Fields → Bool
  | [], [] => true
  | (k, x) :: xs, (l, y) :: ys => k == l && J.beq x y && J.beqF xs ys
  | _, _ => false
end

mutual
theorem J.beq_eq : (a b : J) → J.beq a b = true → a = b
  | .null, b, h | .bool _, b, h | .int _, b, h | .flt _, b, h | .str _, b, h => by
      cases b <;> simp [J.beq] at h <;> simp [h]
  | .list a, b, h | .tup a, b, h => by
      cases b <;> simp [J.beq] at h
      exact congrArg _ (J.beqL_eq a _ h)
  | .dict a, b, h => by
      cases b <;> simp [J.beq] at h
      exact congrArg _ (J.beqF_eq a _ h)
theorem J.beqL_eq : (a b : List J) → J.beqL a b = true → a = b
  | [], [], _ => rfl
  | x :: xs, y :: ys, h => by
      simp [J.beqL] at h
      simp [J.beq_eq x y h.1, J.beqL_eq xs ys h.2]
  | [], _ :: _, h | _ :: _, [], h => by simp [J.beqL] at h
theorem J.beqF_eq : (a b : Fields) → J.beqF a b = true → a = b
  | [], [], _ => rfl
  | (k, x) :: xs, (l, y) :: ys, h => by
      simp [J.beqF] at h
      simp [h.1.1, J.beq_eq x y h.1.2, J.beqF_eq xs ys h.2]
  | [], _ :: _, h | _ :: _, [], h => by simp [J.beqF] at h
end

mutual
theorem J.beq_refl : (a : J) → J.beq a a = true
  | .null => rfl
  | .bool _ | .int _ | .flt _ | .str _ => by simp [J.beq]
  | .list a | .tup a => by simp [J.beq, J.beqL_refl a]
  | .dict a => by simp [J.beq, J.beqF_refl a]
theorem J.beqL_refl : (a : List J) → J.beqL a a = true
  | [] => rfl
  | x :: xs => by simp [J.beqL, J.beq_refl x, J.beqL_refl xs]
theorem J.beqF_refl : (a : Fields) → J.beqF a a = true
  | [] => rfl
  | (k, x) :: xs => by simp [J.beqF, J.beq_refl x, J.beqF_refl xs]
end

instance : DecidableEq J := fun a b =>
  if h : J.beq a b = true then isTrue (J.beq_eq a b h)
  else isFalse (fun e => h (e ▸ J.beq_refl a))

def truthy : J → Bool
  | .null => false
  | .bool b => b
  | .int n => n != 0
  | .flt s => !(s = ['0','.','0'] || s = ['-','0','.','0'])
  | .str s => !s.isEmpty
  | .list xs => !xs.isEmpty
  | .tup xs => !xs.isEmpty
  | .dict kvs => !kvs.isEmpty

abbrev Res (α : Type) := Except PyErr α

instance instDecEqExcept {ε α : Type} [DecidableEq ε] [DecidableEq α] : DecidableEq (Except ε α) := fun a b =>
  match a, b with
  | .ok x, .ok y => if h : x = y then isTrue (by rw [h]) else isFalse (fun e => h (by injection e))
  | .error x, .error y => if h : x = y then isTrue (by rw [h]) else isFalse (fun e => h (by injection e))
  | .ok _, .error _ => isFalse (fun e => by injection e)
  | .error _, .ok _ => isFalse (fun e => by injection e)

def lookup (k : Str) : Fields → Option J
  | [] => none
  | (k', v) :: r => if k' = k then some v else lookup k r

def hasKey (k : Str) (d : Fields) : Bool := (lookup k d).isSome

/-- `d[k] = v` on an insertion-ordered dict: replace in place, else append. -/
def setKey (k : Str) (v : J) : Fields → Fields
  | [] => [(k, v)]
  | (k', v') :: r => if k' = k then (k', v) :: r else (k', v') :: setKey k v r

def delKey (k : Str) : Fields → Fields
  | [] => []
  | (k', v') :: r => if k' = k then r else (k', v') :: delKey k r

def keys (d : Fields) : List Str := d.map Prod.fst

def startsWith (p s : Str) : Bool := p.isPrefixOf s
def endsWith (p s : Str) : Bool := p.isSuffixOf s

/-- Python `str.strip()` restricted to the ASCII whitespace set. -/
def isWs (c : Char) : Bool := c = ' ' || c = '\t' || c = '\n' || c = '\r' || c = '\x0b' || c = '\x0c'
def lstrip (s : Str) : Str := s.dropWhile isWs
def rstrip (s : Str) : Str := (s.reverse.dropWhile isWs).reverse
def strip (s : Str) : Str := rstrip (lstrip s)

end Mappy
